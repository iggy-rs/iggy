/-
The catalogue invariant `Sys.WF` = structural well-formedness + "the journal replays to the running
catalogue" (`Sync`), and its preservation by every operation.
-/
import Iggy.Sys.Catalog.Data
namespace Iggy.Sys
open Iggy.Log

def Sync (y : Sys) : Prop := (replay y.journal).panicked = false ∧ viewR (replay y.journal) = viewY y

def Sys.WF (y : Sys) : Prop := y.CatWF ∧ Sync y

def run (y : Sys) (ops : List Op) : Sys := ops.foldl (fun y op => (step y op).1) y

theorem run_snoc (y : Sys) (ops : List Op) (op : Op) : run y (ops ++ [op]) = (step (run y ops) op).1 := by
  simp [run, List.foldl_append]

theorem step_spec_of_catwf {y : Sys} (h : y.CatWF) (op : Op) (hop : ∀ cl, op ≠ .restart cl) :
    Spec y (step y op) := by
  cases op with
  | clock => exact spec_clock ..
  | createStream => exact spec_createStream h ..
  | updateStream => exact spec_updateStream h ..
  | deleteStream => exact spec_deleteStream h ..
  | purgeStream => exact spec_purgeStream h ..
  | createTopic => exact spec_createTopic h ..
  | updateTopic => exact spec_updateTopic h ..
  | deleteTopic => exact spec_deleteTopic h ..
  | purgeTopic => exact spec_purgeTopic h ..
  | createParts => exact spec_createParts h ..
  | deleteParts => exact spec_deleteParts h ..
  | createGroup => exact spec_createGroup h ..
  | deleteGroup => exact spec_deleteGroup h ..
  | join => exact spec_join h ..
  | leave => exact spec_leave h ..
  | groupInfo => exact spec_groupInfo h ..
  | groups => exact spec_groups h ..
  | me => exact spec_me ..
  | close => exact spec_close h ..
  | send => exact spec_send h ..
  | poll => exact spec_poll h ..
  | flush => exact spec_flush h ..
  | storeOffset => exact spec_storeOffset h ..
  | getOffset => exact spec_getOffset h ..
  | deleteOffset => exact spec_deleteOffset h ..
  | save => exact spec_save
  | maintain => exact spec_maintain
  | restart cl => exact absurd rfl (hop cl)
  | evict => exact spec_evict h ..
  | topicInfo => exact spec_topicInfo ..
  | topics => exact spec_topics ..
  | streamInfo => exact spec_streamInfo ..
  | streams => exact spec_streams
  | stats => exact spec_stats

theorem step_spec {y : Sys} (h : y.WF) (op : Op) : Spec y (step y op) := by
  by_cases hop : ∃ cl, op = .restart cl
  · obtain ⟨cl, rfl⟩ := hop
    exact spec_restart h.1 h.2.2 cl
  · exact step_spec_of_catwf h.1 op fun cl hc => hop ⟨cl, hc⟩

theorem Spec.wf {y : Sys} (h : y.WF) {r : Sys × Out × List Effect} (hs : Spec y r) : r.1.WF := by
  cases hs with
  | same _ hv hj =>
    refine ⟨h.1.of_view hv, ?_⟩
    show (replay _).panicked = false ∧ viewR (replay _) = _
    rw [hj, hv]; exact h.2
  | logged e _ hj =>
    refine ⟨hj.wf, ?_⟩
    show (replay _).panicked = false ∧ viewR (replay _) = _
    rw [hj.journal, replay_snoc]
    have := hj.replay _ h.2.2 h.2.1
    exact ⟨this.2, this.1⟩

theorem wf_init (cfg : Cfg) (scfg : SCfg) (now : Nat) : (Sys.init cfg scfg now).WF :=
  ⟨(ScopeP.nil : ScopeP SV.id SV.name SV.WF []), rfl, rfl⟩

theorem wf_step {y : Sys} (h : y.WF) (op : Op) : (step y op).1.WF := (step_spec h op).wf h

theorem wf_run {y : Sys} (h : y.WF) (ops : List Op) : (run y ops).WF := by
  induction ops generalizing y with
  | nil => exact h
  | cons op ops ih => exact ih (wf_step h op)

theorem catwf_step {y : Sys} (h : y.CatWF) (op : Op) (hop : ∀ cl, op ≠ .restart cl) : (step y op).1.CatWF := by
  have hs := step_spec_of_catwf h op hop
  generalize step y op = r at hs
  cases hs with
  | same _ hv _ => exact h.of_view hv
  | logged e _ hj => exact hj.wf

end Iggy.Sys

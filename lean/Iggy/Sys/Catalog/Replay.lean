/-
The journal replay (`applyEntry`, `RCat.withStream`, `RStream.withTopic`) and the start-up
(`loadCatalog`), seen through the catalogue view.
-/
import Iggy.Sys.Catalog.Trans
namespace Iggy.Sys
open Iggy.Log

theorem replay_snoc (js : List Entry) (e : Entry) : replay (js ++ [e]) = applyEntry (replay js) e := by
  simp [replay, List.foldl_append]

theorem find?_viewR {r : RCat} {k : Nat} {sv : SV} (h : find? (viewR r) k = some sv) :
    ∃ sr, find? r.streams k = some sr ∧ sr.view = sv :=
  find?_mapE_eq_some h

theorem find?_view_topics {sr : RStream} {k : Nat} {tv : TV} (h : find? sr.view.topics k = some tv) :
    ∃ tr, find? sr.topics k = some tr ∧ tr.view = tv :=
  find?_mapE_eq_some (f := fun _ t => RTopic.view t) h

/-- the replay resolves the stream the runtime resolved, and rewrites it with `f` -/
theorem viewR_withStream {r : RCat} (hp : r.panicked = false) (hV : CatView.WF (viewR r)) {si : Ident} {k : Nat}
    {sv sv' : SV} (hm : (k, sv) ∈ viewR r) (hi : si.Matches k sv.name) {f : RStream → Option RStream}
    (hf : ∀ sr, sr.view = sv → ∃ sr', f sr = some sr' ∧ sr'.view = sv') :
    viewR (r.withStream si f) = insertAsc (viewR r) k sv' ∧ (r.withStream si f).panicked = false := by
  have h1 : r.findStreamId si = some k := by
    rw [RCat.findStreamId_eq]; exact hV.toScope.findK_of hm hi
  obtain ⟨sr, h2, h3⟩ := find?_viewR (find?_of_mem hV.asc hm)
  obtain ⟨sr', h4, h5⟩ := hf sr h3
  simp only [RCat.withStream, h1, h2, h4]
  refine ⟨?_, hp⟩
  rw [← h5]
  exact mapE_insertAsc _ _ _ _

theorem RStream.view_withTopic {sr : RStream} (hS : sr.view.WF) {ti : Ident} {k : Nat} {tv tv' : TV}
    (hm : (k, tv) ∈ sr.view.topics) (hi : ti.Matches k tv.name) {f : RTopic → RTopic}
    (hf : ∀ tr, tr.view = tv → (f tr).view = tv') :
    ∃ sr', sr.withTopic ti f = some sr' ∧ sr'.view = sr.view.setTopic k tv' := by
  have h1 : sr.findTopicId ti = some k := by
    rw [RStream.findTopicId_eq]; exact hS.toScope.findK_of hm hi
  obtain ⟨tr, h2, h3⟩ := find?_view_topics (find?_of_mem hS.asc hm)
  simp only [RStream.withTopic, h1, h2]
  refine ⟨_, rfl, ?_⟩
  simp only [RStream.view, SV.setTopic, mapE_insertAsc, hf tr h3]

theorem viewR_withTopic {r : RCat} (hp : r.panicked = false) (hV : CatView.WF (viewR r)) {si ti : Ident} {ks kt : Nat}
    {sv : SV} {tv tv' : TV} (hs : (ks, sv) ∈ viewR r) (hsi : si.Matches ks sv.name)
    (ht : (kt, tv) ∈ sv.topics) (hti : ti.Matches kt tv.name) {f : RTopic → RTopic}
    (hf : ∀ tr, tr.view = tv → (f tr).view = tv') :
    viewR (r.withStream si (fun s => s.withTopic ti f)) = insertAsc (viewR r) ks (sv.setTopic kt tv') ∧
    (r.withStream si (fun s => s.withTopic ti f)).panicked = false := by
  apply viewR_withStream hp hV hs hsi
  intro sr hsr
  subst hsr
  exact RStream.view_withTopic (hV.all _ hs) ht hti hf

theorem viewR_deleteStream {r : RCat} (hp : r.panicked = false) (hV : CatView.WF (viewR r)) {si : Ident} {k : Nat}
    {sv : SV} (hm : (k, sv) ∈ viewR r) (hi : si.Matches k sv.name) :
    viewR (applyEntry r (.deleteStream si)) = erase (viewR r) k ∧
    (applyEntry r (.deleteStream si)).panicked = false := by
  have h1 : r.findStreamId si = some k := by
    rw [RCat.findStreamId_eq]; exact hV.toScope.findK_of hm hi
  simp only [applyEntry, h1]
  exact ⟨mapE_erase _ _ _, hp⟩

theorem range_succ_keys {α : Type} (n : Nat) (f : Nat → α) :
    ((List.range n).map (fun i => (i + 1, f i))).map (·.1) = List.range' 1 n := by
  rw [List.range'_eq_map_range, List.map_map]
  apply List.map_congr_left
  intro i _
  simp [Nat.add_comm]

theorem viewY_loadCatalog (y : Sys) {r : RCat} (hV : CatView.WF (viewR r)) (cl : List (PKey × Nat)) :
    viewY (loadCatalog y r cl) = viewR r := by
  simp only [viewY, viewR, loadCatalog, mapE, List.map_map]
  apply List.map_congr_left
  intro se hse
  have hsv : (se.1, se.2.view) ∈ viewR r := mem_mapE (f := fun _ (s : RStream) => s.view).2 ⟨se, hse, rfl⟩
  have hid : se.2.id = se.1 := hV.key _ hsv
  have hS : se.2.view.WF := hV.all _ hsv
  simp only [Function.comp_def, Stream.view, RStream.view, mapE, List.map_map, hid]
  congr 2
  apply List.map_congr_left
  intro te hte
  have htv : (te.1, te.2.view) ∈ se.2.view.topics := mem_mapE (f := fun _ (t : RTopic) => t.view).2 ⟨te, hte, rfl⟩
  have htid : te.2.id = te.1 := hS.key _ htv
  simp only [Topic.view, RTopic.view, mapE, List.map_map, htid, Function.comp_def, Group.view]
  rw [List.range_eq_range', ← List.range'_succ_left]

end Iggy.Sys

/-
Data-plane operations, membership operations and queries never change the catalogue view and never
write to the journal.
-/
import Iggy.Sys.Catalog.AdminTopic
import Iggy.Sys.SendLemmas
namespace Iggy.Sys
open Iggy.Log

theorem Group.view_deleteMember (g : Group) (c : Nat) : (g.deleteMember c).view = g.view := by
  unfold Group.deleteMember; split <;> rfl

theorem Group.view_adoptOrder (g : Group) (o : List Nat) : (g.adoptOrder o).view = g.view := by
  unfold Group.adoptOrder; simp only; split <;> rfl

theorem Spec.putTopic {y : Sys} (h : y.CatWF) {s : Stream} {t t' : Topic} (hs : (s.id, s) ∈ y.streams)
    (ht : (t.id, t) ∈ s.topics) (hv : t'.view = t.view) {y' : Sys} {out : Out} {effs : List Effect}
    (he : out.isErr = true → effs = []) (hy : viewY y' = viewY (y.putTopic s t') := by rfl)
    (hj : y'.journal = y.journal := by rfl) : Spec y (y', out, effs) :=
  .same he (hy.trans (viewY_putTopic_same h hs ht hv rfl)) hj

theorem spec_clock {y : Sys} (t : Nat) : Spec y (step y (.clock t)) := by
  simp only [step]; exact .quiet rfl rfl rfl

theorem spec_join {y : Sys} (h : y.CatWF) (c : Nat) (si ti gi : Ident) : Spec y (step y (.join c si ti gi)) := by
  simp only [step]
  refine .withTopic h fun s t hs _ ht _ hT => ?_
  split
  · exact .failed rfl rfl
  · next g hg =>
    exact .putTopic h hs ht (Topic.view_putGroup_same hT (hT.findGroup.1 hg).1 (g' := g.addMember (y.clientOf c)) rfl)
      (fun _ => rfl)

theorem spec_leave {y : Sys} (h : y.CatWF) (c : Nat) (si ti gi : Ident) : Spec y (step y (.leave c si ti gi)) := by
  simp only [step]
  refine .withTopic h fun s t hs _ ht _ hT => ?_
  split
  · exact .failed rfl rfl
  · next g hg =>
    exact .putTopic h hs ht (Topic.view_putGroup_same hT (hT.findGroup.1 hg).1 (Group.view_deleteMember _ _))
      (fun _ => rfl)

theorem spec_groupInfo {y : Sys} (h : y.CatWF) (si ti gi : Ident) (o : List Nat) :
    Spec y (step y (.groupInfo si ti gi o)) := by
  simp only [step]
  refine .withTopic h fun s t hs _ ht _ hT => ?_
  split
  · exact .quiet rfl rfl rfl
  · next g hg =>
    exact .putTopic h hs ht (Topic.view_putGroup_same hT (hT.findGroup.1 hg).1 (Group.view_adoptOrder _ _))
      (fun _ => rfl)

theorem spec_groups {y : Sys} (h : y.CatWF) (si ti : Ident) : Spec y (step y (.groups si ti)) := by
  simp only [step]
  exact .withTopic h fun _ _ _ _ _ _ _ => .quiet rfl rfl rfl

theorem spec_me {y : Sys} (c cid : Nat) : Spec y (step y (.me c cid)) := by
  simp only [step]; exact .quiet rfl rfl rfl

/-- one iteration of the `close` loop -/
def closeOne (client : Nat) (acc : Sys) (k : Nat × Nat × Nat) : Sys :=
  match find? acc.streams k.1 with
  | none => acc
  | some s => match find? s.topics k.2.1 with
    | none => acc
    | some t => match find? t.groups k.2.2 with
      | none => acc
      | some g => acc.putTopic s (t.putGroup (g.deleteMember client))

theorem closeOne_cases {acc : Sys} (h : acc.CatWF) (client : Nat) (k : Nat × Nat × Nat) :
    (groupOf acc.streams k = none ∧ closeOne client acc k = acc) ∨
    ∃ s t g, (s.id, s) ∈ acc.streams ∧ (t.id, t) ∈ s.topics ∧ t.view.WF ∧ (g.id, g) ∈ t.groups ∧
      k = (s.id, t.id, g.id) ∧ closeOne client acc k = acc.putTopic s (t.putGroup (g.deleteMember client)) := by
  unfold closeOne groupOf topicOf
  split
  · next hs => exact .inl ⟨by rw [hs]; rfl, rfl⟩
  · next s hs =>
    have hS := h.stream (h.mem_of_find hs)
    split
    · next ht => exact .inl ⟨by rw [hs, Option.bind_some, ht]; rfl, rfl⟩
    · next t ht =>
      have hT := hS.topic (hS.mem_of_find ht)
      split
      · next hg => exact .inl ⟨by rw [hs, Option.bind_some, ht, Option.bind_some, hg], rfl⟩
      · next g hg =>
        refine .inr ⟨s, t, g, h.mem_of_find hs, hS.mem_of_find ht, hT, hT.mem_of_find hg, ?_, rfl⟩
        rw [h.scope.key_of_find hs, hS.scope.key_of_find ht, hT.scope.key_of_find hg]

theorem closeOne_same {acc : Sys} (h : acc.CatWF) (client : Nat) (k : Nat × Nat × Nat) :
    viewY (closeOne client acc k) = viewY acc ∧ (closeOne client acc k).journal = acc.journal := by
  rcases closeOne_cases h client k with ⟨_, he⟩ | ⟨s, t, g, hs, ht, hT, hg, _, he⟩ <;> rw [he]
  · exact ⟨rfl, rfl⟩
  · exact ⟨viewY_putTopic_same h hs ht (Topic.view_putGroup_same hT hg (Group.view_deleteMember _ _)) (y₁ := acc) rfl,
      rfl⟩

theorem closeFold_induction {client : Nat} {P : Sys → Prop}
    (hstep : ∀ acc k, acc.CatWF → P acc → P (closeOne client acc k)) (keys : List (Nat × Nat × Nat)) {acc : Sys}
    (h : acc.CatWF) (h0 : P acc) : P (keys.foldl (closeOne client) acc) := by
  induction keys generalizing acc with
  | nil => exact h0
  | cons k ks ih => exact ih (h.of_view (closeOne_same h client k).1) (hstep acc k h h0)

theorem spec_close {y : Sys} (h : y.CatWF) (c : Nat) : Spec y (step y (.close c)) := by
  simp only [step]
  have := closeFold_induction (client := y.clientOf c) (P := fun acc => viewY acc = viewY y ∧ acc.journal = y.journal)
    (fun acc k ha hp => ⟨(closeOne_same ha _ k).1.trans hp.1, (closeOne_same ha _ k).2.trans hp.2⟩)
    ((find? y.memberships (y.clientOf c)).getD []) h ⟨rfl, rfl⟩
  exact .quiet rfl this.1 this.2

theorem spec_send {y : Sys} (h : y.CatWF) (si ti : Ident) (p : Partitioning) (msgs : List InMsg) :
    Spec y (step y (.send si ti p msgs)) := by
  simp only [step]
  refine .withTopic h fun s t hs _ ht _ hT => ?_
  rcases t.send_cases y.cfg y.scfg s.id y.now p msgs with ⟨cur, out, he⟩ | ⟨cur, pid, p, p', hp, _, _, he⟩ <;> rw [he]
  · exact .putTopic (t' := { t with cursor := cur }) h hs ht rfl fun _ => rfl
  · exact .putTopic h hs ht (Topic.view_putPart_same (t := { t with cursor := cur }) hT hp) nofun

/-- the one group `resolve` may rewrite is the consumer's: a poll moves its member's rotation cursor -/
theorem Topic.resolve_cases (t : Topic) (cons : Consumer) (client : Nat) (pid : Option Nat) (rot : Bool) :
    (∃ e, t.resolve cons client pid rot = .error e) ∨
    ∃ r gs, t.resolve cons client pid rot = .ok (r, { t with groups := gs }) ∧ (∀ k, pid = some k → r = some k) ∧
      (gs = t.groups ∨
        ∃ g ms, find? t.groups cons.id = some g ∧ gs = insertAsc t.groups g.id { g with members := ms }) := by
  -- `split` in a hypothesis: the goal mentions the result twice and every `split` there simplifies all of it
  generalize hx : t.resolve cons client pid rot = x
  unfold Topic.resolve at hx
  repeat' split at hx
  all_goals subst hx
  all_goals first
    | exact .inl ⟨_, rfl⟩
    | exact .inr ⟨_, t.groups, rfl, fun k hk => by simp_all, .inl rfl⟩
    | exact .inr ⟨_, _, rfl, nofun, .inr ⟨_, _, by assumption, by rfl⟩⟩

theorem Topic.resolve_view {t t' : Topic} (hT : t.view.WF) {cons : Consumer} {client : Nat} {pid r : Option Nat}
    {rot : Bool} (hr : t.resolve cons client pid rot = .ok (r, t')) : t'.view = t.view := by
  rcases t.resolve_cases cons client pid rot with ⟨e, he⟩ | ⟨_, _, he, _, rfl | ⟨g, ms, hg, rfl⟩⟩ <;>
    rw [he] at hr <;> cases hr
  · rfl
  · exact Topic.view_putGroup_same (g' := { g with members := ms }) hT (hT.mem_of_find hg) rfl

theorem spec_poll {y : Sys} (h : y.CatWF) (c : Nat) (si ti : Ident) (pid : Option Nat) (cons : Consumer)
    (k : PollKind) (count : Nat) (auto : Bool) : Spec y (step y (.poll c si ti pid cons k count auto)) := by
  simp only [step]
  refine ite_elim (fun _ => .failed rfl rfl) fun _ => .withTopic h fun s t hs _ ht _ hT => ?_
  refine ite_elim (fun _ => .failed rfl rfl) fun _ => ?_
  split
  · exact .failed rfl rfl
  · next t' hr => exact .putTopic h hs ht (Topic.resolve_view hT hr) nofun
  · next pid' t' hr =>
    have hv := Topic.resolve_view hT hr
    split
    · exact .putTopic h hs ht hv (fun _ => rfl)
    · next p hp =>
      split
      · exact .putTopic h hs ht hv nofun
      · refine ite_elim (fun _ => ?_) fun _ => .putTopic h hs ht hv nofun
        split
        · exact .putTopic h hs ht hv (fun _ => rfl)
        · -- the topic is written back twice: after the rotation, and with the stored offset
          exact .same nofun (viewY_putTopic_same h hs ht ((Topic.view_putPart_same (hv ▸ hT) hp).trans hv)
            (viewY_putTopic_same h hs ht hv rfl)) rfl

theorem Spec.withPart_put {y : Sys} (h : y.CatWF) (si ti : Ident) (pid : Nat) (g : Part → Part) :
    Spec y (y.withPart si ti pid fun s t p => (y.putTopic s (t.putPart pid (g p)), .ok, [])) :=
  withPart_elim h (fun _ => .failed rfl rfl) fun s _ _ hs _ ht _ hp =>
    .putTopic h hs ht (Topic.view_putPart_same ((h.stream hs).topic ht) hp) nofun

theorem spec_flush {y : Sys} (h : y.CatWF) (si ti : Ident) (pid : Nat) : Spec y (step y (.flush si ti pid)) := by
  simp only [step]; exact .withPart_put h ..

theorem spec_evict {y : Sys} (h : y.CatWF) (si ti : Ident) (pid keep : Nat) :
    Spec y (step y (.evict si ti pid keep)) := by
  simp only [step]; exact .withPart_put h ..

theorem spec_storeOffset {y : Sys} (h : y.CatWF) (c : Nat) (si ti : Ident) (pid : Option Nat) (cons : Consumer)
    (off : Nat) : Spec y (step y (.storeOffset c si ti pid cons off)) := by
  simp only [step]
  refine .withTopic h fun s t hs _ ht _ hT => ?_
  split
  · exact .failed rfl rfl
  · exact .failed rfl rfl
  · split
    · exact .failed rfl rfl
    · next p hp =>
      split
      · exact .failed rfl rfl
      · exact .putTopic h hs ht (Topic.view_putPart_same hT hp) nofun

theorem spec_deleteOffset {y : Sys} (h : y.CatWF) (c : Nat) (si ti : Ident) (pid : Option Nat) (cons : Consumer) :
    Spec y (step y (.deleteOffset c si ti pid cons)) := by
  simp only [step]
  refine .withTopic h fun s t hs _ ht _ hT => ?_
  split
  · exact .failed rfl rfl
  · exact .failed rfl rfl
  · split
    · exact .failed rfl rfl
    · next p hp =>
      split
      · exact .failed rfl rfl
      · exact .putTopic h hs ht (Topic.view_putPart_same hT hp) nofun

theorem spec_getOffset {y : Sys} (h : y.CatWF) (c : Nat) (si ti : Ident) (pid : Option Nat) (cons : Consumer) :
    Spec y (step y (.getOffset c si ti pid cons)) := by
  simp only [step]
  refine .withTopic h fun s t hs _ ht _ hT => ?_
  split
  · exact .failed rfl rfl
  · exact .quiet rfl rfl rfl
  · split
    · exact .failed rfl rfl
    · exact .quiet rfl rfl rfl

theorem spec_save {y : Sys} : Spec y (step y .save) := by
  simp only [step]; exact .quiet rfl (viewY_mapAllParts _ _) rfl

theorem Topic.maintain_view (cfg : Cfg) (sc : SCfg) (sid : Nat) (t : Topic) (now : Nat) :
    (Topic.maintain cfg sc sid t now).1.view = t.view := by
  simp only [Topic.maintain, Topic.view, List.map_map, Function.comp_def]

theorem spec_maintain {y : Sys} : Spec y (step y .maintain) := by
  simp only [step]
  refine .quiet rfl ?_ rfl
  simp only [viewY, mapE, List.map_map]
  apply List.map_congr_left
  intro se _
  simp only [Function.comp_def, Stream.view, mapE, List.map_map, Topic.maintain_view]

theorem spec_topicInfo {y : Sys} (si ti : Ident) : Spec y (step y (.topicInfo si ti)) := by
  simp only [step]
  split
  · exact .quiet rfl rfl rfl
  · split
    · exact .quiet rfl rfl rfl
    · exact .quiet rfl rfl rfl

theorem spec_topics {y : Sys} (si : Ident) : Spec y (step y (.topics si)) := by
  simp only [step]
  split
  · exact .failed rfl rfl
  · exact .quiet rfl rfl rfl

theorem spec_streamInfo {y : Sys} (si : Ident) : Spec y (step y (.streamInfo si)) := by
  simp only [step]
  split
  · exact .quiet rfl rfl rfl
  · exact .quiet rfl rfl rfl

theorem spec_streams {y : Sys} : Spec y (step y .streams) := by
  simp only [step]; exact .quiet rfl rfl rfl

theorem spec_stats {y : Sys} : Spec y (step y .stats) := by
  simp only [step]; exact .quiet rfl rfl rfl

theorem spec_restart {y : Sys} (h : y.CatWF) (hs : viewR (replay y.journal) = viewY y) (cl : List (PKey × Nat)) :
    Spec y (step y (.restart cl)) := by
  simp only [step]
  split
  · exact .failed rfl rfl
  · refine .quiet rfl ?_ rfl
    rw [viewY_loadCatalog y (by rw [hs]; exact h)]
    exact hs

end Iggy.Sys

/-
The *catalogue view*: everything the get / list calls show of the catalogue (numeric ids, names,
partition sets, settings, consumer groups), as a plain value.  It is computed both from the runtime
state (`viewY`) and from a replayed journal (`viewR`); well-formedness (`CatView.WF`) is a predicate on
the view alone, so it transfers between the two for free.
-/
import Iggy.Sys.Catalog.Assoc
namespace Iggy.Sys

/-- what a listing shows of a consumer group (members are connection state, not catalogue) -/
structure GV where
  id : Nat
  name : String
  nparts : Nat
deriving Repr, DecidableEq

/-- what a listing shows of a topic; `parts` = the partition ids -/
structure TV where
  id : Nat
  name : String
  parts : List Nat
  expiry : Option Nat
  maxSize : Option Nat
  repl : Nat
  groups : List (Nat × GV)
deriving Repr, DecidableEq

structure SV where
  id : Nat
  name : String
  topics : List (Nat × TV)
deriving Repr, DecidableEq

abbrev CatView := List (Nat × SV)

def Group.view (g : Group) : GV := { id := g.id, name := g.name, nparts := g.nparts }

def Topic.view (t : Topic) : TV :=
  { id := t.id, name := t.name, parts := t.parts.map (·.1), expiry := t.expiry, maxSize := t.maxSize,
    repl := t.repl, groups := mapE (fun _ g => g.view) t.groups }

def Stream.view (s : Stream) : SV := { id := s.id, name := s.name, topics := mapE (fun _ t => t.view) s.topics }

def viewY (y : Sys) : CatView := mapE (fun _ s => s.view) y.streams

/-- a replayed topic as `loadCatalog` rebuilds it: `n` partitions are the partitions `1..n`; an absent
replication factor is 1; a group is rebuilt with the topic's partition count -/
def RTopic.view (t : RTopic) : TV :=
  { id := t.id, name := t.name, parts := List.range' 1 t.nparts, expiry := t.expiry, maxSize := t.maxSize,
    repl := t.repl.getD 1, groups := mapE (fun k nm => { id := k, name := nm, nparts := t.nparts }) t.groups }

def RStream.view (s : RStream) : SV := { id := s.id, name := s.name, topics := mapE (fun _ t => t.view) s.topics }

def viewR (r : RCat) : CatView := mapE (fun _ s => s.view) r.streams

/-! ### scopes: uniquely numbered and named entities -/

structure Scope {α : Type} (idf : α → Nat) (nm : α → String) (l : List (Nat × α)) : Prop where
  asc : Asc l
  key : ∀ e ∈ l, idf e.2 = e.1
  inj : ∀ a ∈ l, ∀ b ∈ l, nm a.2 = nm b.2 → a.1 = b.1

structure ScopeP {α : Type} (idf : α → Nat) (nm : α → String) (P : α → Prop) (l : List (Nat × α)) : Prop
    extends Scope idf nm l where
  all : ∀ e ∈ l, P e.2

def TV.WF (t : TV) : Prop :=
  t.parts = List.range' 1 t.parts.length ∧
  ScopeP GV.id GV.name (fun g => g.nparts = t.parts.length) t.groups

def SV.WF (s : SV) : Prop := ScopeP TV.id TV.name TV.WF s.topics

def CatView.WF (v : CatView) : Prop := ScopeP SV.id SV.name SV.WF v

def Sys.CatWF (y : Sys) : Prop := CatView.WF (viewY y)

section
variable {α β : Type} {idf : α → Nat} {nm : α → String} {P : α → Prop} {l : List (Nat × α)}

theorem Scope.nil : Scope idf nm [] :=
  ⟨List.Pairwise.nil, fun _ h => by simp at h, fun _ h => by simp at h⟩

theorem ScopeP.nil : ScopeP idf nm P [] := ⟨Scope.nil, fun _ h => by simp at h⟩

theorem Scope.eq_of_name (h : Scope idf nm l) {a b : Nat × α} (ha : a ∈ l) (hb : b ∈ l) (hn : nm a.2 = nm b.2) :
    a = b := h.asc.eq_of_key ha hb (h.inj a ha b hb hn)

theorem Scope.find_key (h : Scope idf nm l) {e : Nat × α} (he : e ∈ l) : find? l e.1 = some e.2 :=
  find?_of_mem h.asc he

theorem Scope.find_name (h : Scope idf nm l) {e : Nat × α} (he : e ∈ l) :
    l.find? (fun x => nm x.2 = nm e.2) = some e := by
  cases hf : l.find? (fun x => nm x.2 = nm e.2) with
  | none =>
    have := List.find?_eq_none.1 hf e he
    simp at this
  | some e' =>
    have h1 := List.mem_of_find?_eq_some hf
    have h2 := List.find?_some hf
    simp at h2
    rw [h.eq_of_name h1 he h2]

theorem Scope.key_of_find (h : Scope idf nm l) {k : Nat} {a : α} (hf : find? l k = some a) : idf a = k :=
  h.key _ (mem_of_find? hf)

theorem Scope.mem_of_find (h : Scope idf nm l) {k : Nat} {a : α} (hf : find? l k = some a) : (idf a, a) ∈ l := by
  rw [h.key_of_find hf]; exact mem_of_find? hf

/-- insert a new entry, or overwrite the entry under the same key: fine as long as no *other* entry
has the new name -/
theorem Scope.insert (h : Scope idf nm l) {k : Nat} {v : α} (hk : idf v = k)
    (hfresh : ∀ e ∈ l, nm e.2 = nm v → e.1 = k) : Scope idf nm (insertAsc l k v) := by
  refine ⟨asc_insertAsc h.asc k v, fun e he => ?_, fun a ha b hb hn => ?_⟩
  · rcases mem_insertAsc he with he | ⟨he, _⟩
    · subst he; exact hk
    · exact h.key e he
  · rcases mem_insertAsc ha with ha | ⟨ha, ha'⟩ <;> rcases mem_insertAsc hb with hb | ⟨hb, hb'⟩
    · subst ha hb; rfl
    · subst ha; exact (hfresh b hb hn.symm).symm
    · subst hb; exact hfresh a ha hn
    · exact h.inj a ha b hb hn

theorem Scope.erase (h : Scope idf nm l) (k : Nat) : Scope idf nm (erase l k) :=
  ⟨asc_erase h.asc k, fun e he => h.key e (mem_erase.1 he).1,
   fun a ha b hb hn => h.inj a (mem_erase.1 ha).1 b (mem_erase.1 hb).1 hn⟩

theorem ScopeP.insert (h : ScopeP idf nm P l) {k : Nat} {v : α} (hk : idf v = k)
    (hfresh : ∀ e ∈ l, nm e.2 = nm v → e.1 = k) (hv : P v) : ScopeP idf nm P (insertAsc l k v) := by
  refine ⟨h.toScope.insert hk hfresh, fun e he => ?_⟩
  rcases mem_insertAsc he with he | ⟨he, _⟩
  · subst he; exact hv
  · exact h.all e he

theorem ScopeP.erase (h : ScopeP idf nm P l) (k : Nat) : ScopeP idf nm P (erase l k) :=
  ⟨h.toScope.erase k, fun e he => h.all e (mem_erase.1 he).1⟩

theorem ScopeP.mono {Q : α → Prop} (h : ScopeP idf nm P l) (hq : ∀ e ∈ l, P e.2 → Q e.2) : ScopeP idf nm Q l :=
  ⟨h.toScope, fun e he => hq e he (h.all e he)⟩

theorem scope_mapE {idf' : β → Nat} {nm' : β → String} (f : Nat → α → β)
    (hid : ∀ e ∈ l, idf' (f e.1 e.2) = idf e.2) (hnm : ∀ e ∈ l, nm' (f e.1 e.2) = nm e.2) :
    Scope idf' nm' (mapE f l) ↔ Scope idf nm l := by
  have hm : ∀ {e : Nat × α}, e ∈ l → (e.1, f e.1 e.2) ∈ mapE f l := fun he => mem_mapE.2 ⟨_, he, rfl⟩
  constructor
  · intro h
    exact ⟨(asc_mapE f l).1 h.asc, fun e he => (hid e he).symm.trans (h.key _ (hm he)),
      fun a ha b hb hn => h.inj _ (hm ha) _ (hm hb) ((hnm a ha).trans (hn.trans (hnm b hb).symm))⟩
  · intro h
    refine ⟨(asc_mapE f l).2 h.asc, fun e he => ?_, fun a ha b hb hn => ?_⟩
    · obtain ⟨a, ha, rfl⟩ := mem_mapE.1 he
      exact (hid a ha).trans (h.key a ha)
    · obtain ⟨a', ha', rfl⟩ := mem_mapE.1 ha
      obtain ⟨b', hb', rfl⟩ := mem_mapE.1 hb
      exact h.inj a' ha' b' hb' ((hnm a' ha').symm.trans (hn.trans (hnm b' hb')))

theorem Scope.names_nodup (h : Scope idf nm l) : (l.map (fun e => nm e.2)).Nodup := by
  unfold List.Nodup
  rw [List.pairwise_map]
  refine List.Pairwise.imp_of_mem (fun {a b} ha hb hlt hn => ?_) h.asc
  exact Nat.ne_of_lt hlt (h.inj a ha b hb hn)

end

end Iggy.Sys

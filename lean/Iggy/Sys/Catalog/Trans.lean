/-
How the runtime's building blocks (`putStream`, `putTopic`, `putGroup`, `putPart`, the `map…`
traversals) act on the catalogue view, and view-level well-formedness of the results.
-/
import Iggy.Sys.Catalog.Lookup
namespace Iggy.Sys
open Iggy.Log

def SV.setTopic (sv : SV) (k : Nat) (tv : TV) : SV := { sv with topics := insertAsc sv.topics k tv }
def SV.delTopic (sv : SV) (k : Nat) : SV := { sv with topics := erase sv.topics k }
def TV.setGroup (tv : TV) (k : Nat) (gv : GV) : TV := { tv with groups := insertAsc tv.groups k gv }
def TV.delGroup (tv : TV) (k : Nat) : TV := { tv with groups := erase tv.groups k }

theorem viewY_putStream (y : Sys) (s : Stream) : viewY (y.putStream s) = insertAsc (viewY y) s.id s.view :=
  mapE_insertAsc _ _ _ _

theorem Stream.view_putTopic (s : Stream) (t : Topic) : (s.putTopic t).view = s.view.setTopic t.id t.view := by
  simp only [Stream.view, Stream.putTopic, SV.setTopic, mapE_insertAsc]

theorem Topic.view_putGroup (t : Topic) (g : Group) : (t.putGroup g).view = t.view.setGroup g.id g.view := by
  simp only [Topic.view, Topic.putGroup, TV.setGroup, mapE_insertAsc]

theorem viewY_putTopic (y : Sys) (s : Stream) (t : Topic) :
    viewY (y.putTopic s t) = insertAsc (viewY y) s.id (s.view.setTopic t.id t.view) := by
  rw [Sys.putTopic, viewY_putStream, Stream.view_putTopic]; rfl

theorem mem_viewY {y : Sys} {k : Nat} {s : Stream} (h : (k, s) ∈ y.streams) : (k, s.view) ∈ viewY y :=
  mem_mapE (f := fun _ (s : Stream) => s.view).2 ⟨(k, s), h, rfl⟩

theorem mem_view_topics {s : Stream} {k : Nat} {t : Topic} (h : (k, t) ∈ s.topics) : (k, t.view) ∈ s.view.topics :=
  mem_mapE (f := fun _ (t : Topic) => t.view).2 ⟨(k, t), h, rfl⟩

theorem mem_view_groups {t : Topic} {k : Nat} {g : Group} (h : (k, g) ∈ t.groups) : (k, g.view) ∈ t.view.groups :=
  mem_mapE (f := fun _ (g : Group) => g.view).2 ⟨(k, g), h, rfl⟩

theorem Topic.view_putPart_same {t : Topic} (ht : t.view.WF) {pid : Nat} {p p' : Part}
    (hf : find? t.parts pid = some p) : (t.putPart pid p').view = t.view := by
  simp only [Topic.view, Topic.putPart, keys_insertAsc_same ht.parts_asc hf]

theorem Topic.view_putGroup_same {t : Topic} (ht : t.view.WF) {g g' : Group} (hm : (g.id, g) ∈ t.groups)
    (hv : g'.view = g.view) : (t.putGroup g').view = t.view := by
  have hid : g'.id = g.id := congrArg GV.id hv
  rw [Topic.view_putGroup, hid, hv]
  simp only [TV.setGroup]
  rw [insertAsc_self ht.2.asc]
  exact find?_of_mem ht.2.asc (mem_view_groups hm)

theorem Stream.view_putTopic_same {s : Stream} (hs : s.view.WF) {t t' : Topic} (hm : (t.id, t) ∈ s.topics)
    (hv : t'.view = t.view) : (s.putTopic t').view = s.view := by
  have hid : t'.id = t.id := congrArg TV.id hv
  rw [Stream.view_putTopic, hid, hv, SV.setTopic, insertAsc_self hs.asc (find?_of_mem hs.asc (mem_view_topics hm))]

theorem viewY_putStream_same {y : Sys} (h : y.CatWF) {s s' : Stream} (hm : (s.id, s) ∈ y.streams)
    (hv : s'.view = s.view) {y₁ : Sys} (hy : viewY y₁ = viewY y) : viewY (y₁.putStream s') = viewY y := by
  have hid : s'.id = s.id := congrArg SV.id hv
  rw [viewY_putStream, hy, hid, hv]
  exact insertAsc_self h.asc (find?_of_mem h.asc (mem_viewY hm))

theorem viewY_putTopic_same {y : Sys} (h : y.CatWF) {s : Stream} {t t' : Topic} (hs : (s.id, s) ∈ y.streams)
    (ht : (t.id, t) ∈ s.topics) (hv : t'.view = t.view) {y₁ : Sys} (hy : viewY y₁ = viewY y) :
    viewY (y₁.putTopic s t') = viewY y :=
  viewY_putStream_same h hs (Stream.view_putTopic_same (h.stream hs) ht hv) hy

theorem Topic.view_mapParts (t : Topic) (f : Part → Part) : (mapParts t f).view = t.view := by
  simp [Topic.view, mapParts, List.map_map, Function.comp_def]

theorem Topic.view_mapPartsK (t : Topic) (sid : Nat) (f : PKey → Part → Part) : (t.mapPartsK sid f).view = t.view := by
  simp [Topic.view, Topic.mapPartsK, List.map_map, Function.comp_def]

theorem Stream.view_mapTopics (s : Stream) (f : Topic → Topic) (hf : ∀ t, (f t).view = t.view) :
    (s.mapTopics f).view = s.view := by
  simp only [Stream.view, Stream.mapTopics]
  congr 1
  simp [mapE, List.map_map, Function.comp_def, hf]

theorem viewY_mapStreams (y : Sys) (f : Stream → Stream) (hf : ∀ s, (f s).view = s.view) :
    viewY (y.mapStreams f) = viewY y := by
  simp [viewY, Sys.mapStreams, mapE, List.map_map, Function.comp_def, hf]

theorem viewY_mapAllParts (y : Sys) (f : PKey → Part → Part) : viewY (y.mapAllParts f) = viewY y :=
  viewY_mapStreams _ _ (fun _ => Stream.view_mapTopics _ _ (fun _ => Topic.view_mapPartsK _ _ _))

theorem Scope.fresh_of_same_name {α : Type} {idf : α → Nat} {nm : α → String} {l : List (Nat × α)}
    (h : Scope idf nm l) {k : Nat} {a v : α} (hm : (k, a) ∈ l) (hn : nm v = nm a) :
    ∀ e ∈ l, nm e.2 = nm v → e.1 = k :=
  fun e he hne => h.inj e he (k, a) hm (hne.trans hn)

theorem TV.WF.setGroup {tv : TV} (h : tv.WF) {k : Nat} {gv : GV} (hid : gv.id = k)
    (hfresh : ∀ e ∈ tv.groups, e.2.name = gv.name → e.1 = k) (hn : gv.nparts = tv.parts.length) :
    (tv.setGroup k gv).WF :=
  ⟨h.1, h.2.insert hid hfresh hn⟩

theorem TV.WF.delGroup {tv : TV} (h : tv.WF) (k : Nat) : (tv.delGroup k).WF := ⟨h.1, h.2.erase k⟩

theorem SV.WF.setTopic {sv : SV} (h : sv.WF) {k : Nat} {tv : TV} (hid : tv.id = k)
    (hfresh : ∀ e ∈ sv.topics, e.2.name = tv.name → e.1 = k) (hwf : tv.WF) : (sv.setTopic k tv).WF :=
  ScopeP.insert h hid hfresh hwf

theorem SV.WF.delTopic {sv : SV} (h : sv.WF) (k : Nat) : (sv.delTopic k).WF := ScopeP.erase h k

theorem CatView.WF.insert {V : CatView} (h : V.WF) {k : Nat} {sv : SV} (hid : sv.id = k)
    (hfresh : ∀ e ∈ V, e.2.name = sv.name → e.1 = k) (hwf : sv.WF) : CatView.WF (insertAsc V k sv) :=
  ScopeP.insert h hid hfresh hwf

theorem CatView.WF.erase {V : CatView} (h : V.WF) (k : Nat) : CatView.WF (Iggy.Sys.erase V k) := ScopeP.erase h k

end Iggy.Sys

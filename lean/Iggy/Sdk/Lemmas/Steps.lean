/- C20 helpers: every event preserves the invariant -/
import Iggy.Sdk.Lemmas.Inv
namespace Iggy.Sdk
variable {rew : Bool} {cfg : CCfg} {pid : Nat} {strat0 : Strat} {srv0 : Srv}

theorem StratOK.congr {c c' : Cons} {a l b : Nat} (h : StratOK strat0 c a l b) (e : c'.strat = c.strat) :
    StratOK strat0 c' a l b := by
  unfold StratOK at h ⊢; rw [e]; exact h

/-- consuming `l + 1`: the strategy follows (`onPolled`), or stays while messages are left in the buffer (`pop`) -/
theorem StratOK.consume (hg : Good cfg strat0) {c c' : Cons} {a l b b' : Nat} (h : StratOK strat0 c a l b)
    (e : c'.strat = nextStrat c.strat (l + 1) ∨ (b' ≠ 0 ∧ c'.strat = c.strat)) :
    StratOK strat0 c' a (l + 1) b' := by
  rcases hg.strat with rfl | ⟨k, rfl⟩
  · have h : c.strat = .next := h
    show c'.strat = .next
    rcases e with e | ⟨_, e⟩ <;> rw [e, h] <;> rfl
  · obtain ⟨h1, j, h2, _⟩ := h
    rcases e with e | ⟨hb, e⟩
    · exact ⟨h1, l + 1 + 1, by rw [e, h2]; rfl, fun _ => rfl⟩
    · exact ⟨h1, j, by rw [e, h2], fun h0 => absurd h0 hb⟩

theorem start_fresh (hg : Good cfg strat0) (s : Srv) : s.start strat0 cfg.batch = firstOff strat0 s.stored := by
  rcases hg.strat with rfl | ⟨k, rfl⟩ <;> rfl

theorem StratOK.first (hg : Good cfg strat0) {c' : Cons} (s : Srv) (b : Nat)
    (e : c'.strat = nextStrat strat0 (s.start strat0 cfg.batch)) :
    StratOK strat0 c' (s.start strat0 cfg.batch) (s.start strat0 cfg.batch) b := by
  rcases hg.strat with rfl | ⟨k, rfl⟩
  · exact e
  · exact ⟨rfl, k + 1, e, fun _ => rfl⟩

theorem start_going (hg : Good cfg strat0) {c : Cons} {s : Srv} {a l : Nat}
    (hso : strat0 = .next → ∀ so, s.stored = some so → so ≤ l)
    (hst : StratOK strat0 c a l 0) : s.start c.strat cfg.batch ≤ l + 1 := by
  rcases hg.strat with rfl | ⟨k, rfl⟩
  · rw [show c.strat = .next from hst]
    exact resume_le_iff.mpr (hso rfl)
  · obtain ⟨_, j, h1, h2⟩ := hst
    rw [h1, h2 rfl]; exact Nat.le_refl _

theorem lastYield_going {tr : List Obs} {a n : Nat} (hi : offsOf (curInc tr) = List.range' a (n + 1)) :
    lastYield tr = some (a + n) := by
  rw [lastYield, hi, getLast?_range']

theorem lastYield_fresh {tr : List Obs} (hi : offsOf (curInc tr) = []) : lastYield tr = none := by
  rw [lastYield, hi]; rfl

theorem ConsumeMode.not_polling (h : ConsumeMode cfg) : cfg.polling = false := by
  rcases h with h | h | ⟨n, _, h⟩ <;> simp [CCfg.polling, h]

theorem ConsumeMode.auto (h : ConsumeMode cfg) : cfg.autoCommitEnabled = true := by
  rcases h with h | h | ⟨n, _, h⟩ <;> simp [CCfg.autoCommitEnabled, h]

theorem polling_commitNow (h : cfg.polling = true) (o : Nat) : commitNow cfg o = false := by
  have : cfg.mode = .polling := by simpa [CCfg.polling] using h
  simp [commitNow, CCfg.nth, CCfg.eachMsg, this]

theorem polling_afterAll (h : cfg.polling = true) : cfg.afterAll = false := by
  have : cfg.mode = .polling := by simpa [CCfg.polling] using h
  simp [CCfg.afterAll, this]

theorem ConsumeMode.zero (h : ConsumeMode cfg) :
    commitNow cfg 0 = true ∨ (cfg.mode = .all ∧ cfg.afterAll = true) := by
  rcases h with h | h | ⟨n, hn, h⟩
  · left; simp [commitNow, CCfg.eachMsg, h]
  · right; simp [CCfg.afterAll, h]
  · left; simp [commitNow, CCfg.nth, h]; omega

theorem mem_ite_single {α : Type} {e x : α} {c : Prop} [Decidable c] (h : e ∈ (if c then [x] else [])) : e = x := by
  split at h <;> simp at h; exact h

theorem pending_consume {pend new : List (Nat × Nat)} {a n : Nat}
    (hp : ∀ e ∈ pend, e.1 = pid ∧ e.2 ∈ List.range' a (n + 1)) (hn : ∀ e ∈ new, e = (pid, a + n + 1)) :
    ∀ e ∈ pend ++ new, e.1 = pid ∧ e.2 ∈ List.range' a (n + 1 + 1) := by
  intro e he
  rw [range'_snoc a (n + 1)]
  rcases List.mem_append.mp he with he | he
  · exact ⟨(hp e he).1, List.mem_append_left _ (hp e he).2⟩
  · rw [hn e he]; exact ⟨rfl, List.mem_append_right _ (List.mem_singleton.mpr rfl)⟩

theorem CInv.consume {c c' : Cons} {s s' : Srv} {l b b' : Nat} (h : CInv cfg pid c s l b)
    (hc : c'.stored = c.stored) (hs : s'.stored = s.stored) : CInv cfg pid c' s' (l + 1) b' := by
  obtain ⟨v, hv, hor⟩ := h
  exact ⟨v, hc ▸ hv, hor.imp (fun ⟨hv0, _⟩ => ⟨hv0, fun h0 => absurd h0 (Nat.succ_ne_zero l)⟩) (fun e => hs ▸ e)⟩

theorem CInv.touched {c : Cons} {s : Srv} {l b : Nat} (h : CInv cfg pid c s l b) : touched c pid = c.stored := by
  obtain ⟨v, hv, _⟩ := h
  simp [Iggy.Sdk.touched, hv]

theorem Inv.pop (hg : Good cfg strat0) (h : Inv rew cfg pid strat0 srv0 sys tr) :
    Inv rew cfg pid strat0 srv0 (step cfg pid strat0 sys .pop).1 (tr ++ (step cfg pid strat0 sys .pop).2) := by
  obtain ⟨c, s⟩ := sys
  cases h.phase with
  | fresh hi hc hb hp hs hst =>
    simp only [step, pop_nil cfg c hb, List.append_nil]; exact h
  | going a n b hi hc hcp hb hlen hso hst hp hC hP =>
    cases b with
    | zero =>
      simp only [step, pop_nil cfg c hb, List.append_nil]; exact h
    | succ b =>
      simp only at hi hc hcp hb hlen hso hst hp hC hP
      rw [List.range'_succ, List.map_cons] at hb
      simp only [step, pop_cons cfg c _ _ hb, hcp, msgAt_off]
      have hbf := h.g.bFetched
      simp only [hb] at hbf
      have hinc : offsOf (curInc (tr ++ [Obs.yield ⟨pid, msgAt (a + n + 1)⟩])) = List.range' a (n + 1 + 1) := by
        rw [offsOf_curInc_snoc_yield, hi, range'_snoc a (n + 1)]; rfl
      refine ⟨.going a (n + 1) b hinc (by simp [hc]; rfl) rfl rfl (show a + (n + 1) + b < s.len by omega) ?_ ?_ ?_ ?_ ?_,
        h.g.yield ⟨pid, msgAt (a + n + 1)⟩ rfl rfl (by simp; omega) (hbf _ (by simp))
          (fun m hm => hbf m (by simp [hm])) (by rw [lastYield_going hi]; rfl)⟩
      · intro hn so hso'; have := hso hn so hso'; omega
      · exact hst.consume hg (by cases b <;> simp)
      · rw [hinc, List.append_assoc]
        exact pending_consume (hi ▸ hp) (fun e he => by
          rcases List.mem_append.mp he with he | he <;> exact mem_ite_single he)
      · exact fun hrw hn hm => (hC hrw hn hm).consume rfl rfl
      · intro hrw hn hpol
        obtain ⟨hpe, hbb, so, hso', hle⟩ := hP hrw hn hpol
        refine ⟨?_, by omega, so, hso', by omega⟩
        simp [hpe, polling_commitNow hpol, polling_afterAll hpol]

theorem Inv.store {c : Cons} {s : Srv} {tr : List Obs} (h : Inv rew cfg pid strat0 srv0 (c, s) tr)
    (o : Nat) (ho : o ∈ offsOf (curInc tr)) (st' : OffMap) (pend' : List (Nat × Nat))
    (hst' : ∀ v, c.stored = [(pid, v)] → st' = [(pid, o)]) (hsub : ∀ e ∈ pend', e ∈ c.pending)
    (hpo : rew = false → strat0 = .next → cfg.polling = true → c.consumed = [(pid, o)]) :
    Inv rew cfg pid strat0 srv0 ({ c with stored := st', pending := pend' }, { s with stored := some o })
      (tr ++ [.store o true]) := by
  cases h.phase with
  | fresh hi hc hb hp hs hst => rw [hi] at ho; cases ho
  | going a n b hi hc hcp hb hlen hso hst hp hC hP =>
    simp only at hi hc hcp hb hlen hso hst hp hC hP
    have hol : o ≤ a + n := by
      have := List.mem_range'_1.mp (hi ▸ ho); omega
    refine ⟨(offsOf_curInc_snoc_store tr o true).symm ▸ .going a n b hi hc hcp hb hlen ?_ (hst.congr rfl)
      (fun e he => hp e (hsub e he)) ?_ ?_, h.g.store o (offsOf_curInc_sub tr o ho)⟩
    · intro _ so hso'; cases hso'; omega
    · intro hrw hn hm
      obtain ⟨v, hv, _⟩ := hC hrw hn hm
      exact ⟨o, hst' v hv, Or.inr rfl⟩
    · intro hrw hn hpol
      obtain ⟨hpe, hbb, so, hso', hle⟩ := hP hrw hn hpol
      have e : o = a + n := by simpa [hc] using (hpo hrw hn hpol).symm
      exact ⟨List.eq_nil_of_subset_nil (hpe ▸ hsub), hbb, o, rfl, by omega⟩

theorem Inv.storeOne {c : Cons} {s : Srv} {tr : List Obs} (h : Inv rew cfg pid strat0 srv0 (c, s) tr)
    (pend' : List (Nat × Nat)) (hsub : ∀ e ∈ pend', e ∈ c.pending) (o : Nat) (ho : o ∈ offsOf (curInc tr))
    (hpo : rew = false → strat0 = .next → cfg.polling = true → c.consumed = [(pid, o)]) :
    Inv rew cfg pid strat0 srv0
      ((storeOne { c with pending := pend' } s pid o).1, (storeOne { c with pending := pend' } s pid o).2.1)
      (tr ++ (storeOne { c with pending := pend' } s pid o).2.2) := by
  cases h.phase with
  | fresh hi hc hb hp hs hst => rw [hi] at ho; cases ho
  | going a n b hi hc hcp hb hlen hso hst hp hC hP =>
    simp only at hi hc hcp hb hlen hso hst hp hC hP
    have hol : o ≤ a + n := by
      have := List.mem_range'_1.mp (hi ▸ ho); omega
    by_cases hsend : localStored { c with pending := pend' } pid < o ∨ o = 0
    · rw [storeOne_send _ s pid o hsend (by omega)]
      exact h.store o ho _ pend' (fun v hv => by simp [touched, hv]) hsub hpo
    · rw [storeOne_skip _ s pid o (by omega) (by omega)]
      simp only [List.append_nil]
      refine ⟨.going a n b hi hc hcp hb hlen hso (hst.congr rfl) (fun e he => hp e (hsub e he)) ?_ ?_, h.g⟩
      · intro hrw hn hm
        obtain ⟨v, hv, hor⟩ := hC hrw hn hm
        refine ⟨v, by simp [touched, hv], hor.imp_left fun ⟨hv0, _⟩ => ?_⟩
        omega
      · intro hrw hn hpol
        obtain ⟨hpe, hbb, so, hso', hle⟩ := hP hrw hn hpol
        exact ⟨List.eq_nil_of_subset_nil (hpe ▸ hsub), hbb, so, hso', hle⟩

theorem Inv.deliver (h : Inv rew cfg pid strat0 srv0 sys tr) :
    Inv rew cfg pid strat0 srv0 (step cfg pid strat0 sys .deliver).1 (tr ++ (step cfg pid strat0 sys .deliver).2) := by
  obtain ⟨c, s⟩ := sys
  simp only [step]
  cases hpe : c.pending with
  | nil => simpa using h
  | cons e rest =>
    obtain ⟨p, o⟩ := e
    simp only
    cases h.phase with
    | fresh hi hc hb hp hs hst => simp only at hp; rw [hp] at hpe; cases hpe
    | going a n b hi hc hcp hb hlen hso hst hp hC hP =>
      have hpo := hp (p, o) (by simp [hpe])
      obtain ⟨rfl, ho⟩ := hpo
      refine h.storeOne rest (by intro e he; simp [hpe, he]) o ho ?_
      intro hrw hn hpol
      have := (hP hrw hn hpol).1
      simp only at this; rw [this] at hpe; cases hpe

theorem Inv.tick (h : Inv rew cfg pid strat0 srv0 sys tr) :
    Inv rew cfg pid strat0 srv0 (step cfg pid strat0 sys .tick).1 (tr ++ (step cfg pid strat0 sys .tick).2) := by
  obtain ⟨c, s⟩ := sys
  simp only [step]
  by_cases hi : cfg.interval
  · simp only [hi, ↓reduceIte]
    cases h.phase with
    | fresh hi hc hb hp hs hst =>
      simp only at hc
      simp only [hc, storeMany, List.append_nil]; exact h
    | going a n b hi hc hcp hb hlen hso hst hp hC hP =>
      simp only at hc hi
      simp only [hc, storeMany, List.append_nil]
      exact h.storeOne c.pending (fun e he => he) (a + n) (by rw [hi]; simp [List.mem_range'])
        (fun _ _ _ => hc)
  · simp only [hi, Bool.false_eq_true, ↓reduceIte, List.append_nil]; exact h

theorem Inv.poll (hg : Good cfg strat0) (h : Inv rew cfg pid strat0 srv0 sys tr) :
    Inv rew cfg pid strat0 srv0 (step cfg pid strat0 sys .poll).1 (tr ++ (step cfg pid strat0 sys .poll).2) := by
  obtain ⟨c, s⟩ := sys
  by_cases hbuf : c.buffered = []
  case neg =>
    have : c.buffered.isEmpty = false := by simpa using hbuf
    simp only [step, this, Bool.false_eq_true, ↓reduceIte, List.append_nil]; exact h
  obtain ⟨st, hst'⟩ : ∃ st, st = s.start c.strat cfg.batch := ⟨_, rfl⟩
  obtain ⟨e, he⟩ : ∃ e, e = min (st + cfg.batch) s.len := ⟨_, rfl⟩
  have hel : e ≤ s.len := he ▸ Nat.min_le_right ..
  have heb : e ≤ st + cfg.batch := he ▸ Nat.min_le_left ..
  have hbatch := hg.batch
  have g1 := h.g.polled_run st e
  cases h.phase with
  | fresh hi hc hb hp hs hst =>
    simp only at hi hc hb hp hs hst
    subst hst
    rw [step_poll_fresh cfg pid c.strat c s hc hs hb st e hst' he]
    clear he
    by_cases hle : e ≤ st
    · rw [if_pos hle]
      exact ⟨.fresh (by rw [offsOf_curInc_snoc_polled, hi]) hc hb hp hs rfl, g1⟩
    · rw [if_neg hle]
      have hlt : st < e := Nat.lt_of_not_le hle
      have hinc : offsOf (curInc (tr ++ [Obs.polled s.stored (msgRun st e),
          Obs.yield ⟨pid, msgAt st⟩])) = List.range' st (0 + 1) := by
        rw [List.append_cons, offsOf_curInc_snoc_yield, offsOf_curInc_snoc_polled, hi]; rfl
      have hfirst : st = firstOff c.strat s.stored := by rw [hst', start_fresh hg]
      have hlen : st + 0 + (e - (st + 1)) < (s.polled cfg.polling st e).len := by rw [s.polled_len]; omega
      refine ⟨.going st 0 (e - (st + 1)) hinc rfl rfl rfl hlen ?_ ?_ ?_ ?_ ?_,
        h.g.polled_yield st e st (Nat.le_refl _) hlt hel (by rw [lastYield_fresh hi]; exact hfirst)⟩
      · intro hn
        refine s.polled_stored_le _ (fun so hso => ?_) (fun _ => by omega)
        rw [hn, hso] at hfirst; simp only [firstOff, resume] at hfirst; omega
      · rw [hst']; exact StratOK.first hg s _ rfl
      · rw [hinc]
        intro x hx
        cases mem_ite_single (by simpa [hp] using hx)
        exact ⟨rfl, by simp⟩
      · intro _ _ hm
        refine ⟨0, rfl, Or.inl ⟨rfl, fun h0 => ?_⟩⟩
        have hst0 : st = 0 := by omega
        subst hst0
        rcases hm.zero with hz | ⟨hall, haa⟩
        · left; simp [hz]
        · by_cases h1 : e ≤ 0 + 1
          · left; simp [haa, h1]
          · right; exact ⟨hall, by omega⟩
      · intro _ _ hpol
        exact ⟨by simp [hp, polling_commitNow hpol, polling_afterAll hpol], by omega, e - 1,
          s.polled_stored hpol hlt, by omega⟩
  | going a n b hi hc hcp hb hlen hso hst hp hC hP =>
    simp only at hi hc hcp hb hlen hso hst hp hC hP
    obtain rfl : b = 0 := by simpa [hb] using hbuf
    have hle : st ≤ a + n + 1 := hst' ▸ start_going hg hso hst
    have hstN : strat0 = .next → ∀ so, s.stored = some so → st = so + 1 := by
      intro hn so hs; subst hn; rw [hst', show c.strat = .next from hst]
      show resume s.stored = so + 1
      rw [hs]; rfl
    rw [step_poll_going cfg hg.replay pid strat0 c s (a + n) hc hbuf hlen st e hst' he hle]
    clear he
    by_cases hnew : e ≤ a + n + 1
    · -- the reply holds nothing new
      rw [if_pos hnew]
      have hN : Inv rew cfg pid strat0 srv0 ({ c with curPart := pid }, s.polled cfg.polling st e)
          (tr ++ [.polled s.stored (msgRun st e)]) := by
        refine ⟨(offsOf_curInc_snoc_polled tr _ _).symm ▸ .going a n 0 hi hc rfl hb ((s.polled_len ..).symm ▸ hlen)
          (fun hn => s.polled_stored_le _ (hso hn) (fun _ => by omega)) (hst.congr rfl) hp ?_ ?_, g1⟩
        · intro hrw hn hm
          rw [s.polled_same (Or.inl hm.not_polling)]
          exact hC hrw hn hm
        · intro hrw hn hpol
          obtain ⟨hpe, hbb, so, hso', hle'⟩ := hP hrw hn hpol
          rcases Nat.lt_or_ge st e with hlt | hge
          · have := hstN hn so hso'
            exact ⟨hpe, hbb, e - 1, s.polled_stored hpol hlt, by omega⟩
          · rw [s.polled_same (Or.inr hge)]
            exact ⟨hpe, hbb, so, hso', hle'⟩
      split
      · -- the consumed offset is stored again (not in polling mode)
        have hpol : cfg.polling = false := by
          have := (‹st < e ∧ _›).2
          simp only [Bool.and_eq_true, Bool.not_eq_true'] at this
          exact this.1.2
        rw [s.polled_same (Or.inl hpol)] at hN
        rw [List.append_cons]
        exact hN.store (a + n) (by rw [offsOf_curInc_snoc_polled, hi]; simp [List.mem_range'_1]) _ c.pending
          (fun v hv => by simp [show c.stored = _ from hv]) (fun _ he => he)
          (fun _ _ hp' => by rw [hpol] at hp'; cases hp')
      · exact hN
    · -- `a + n + 1` is yielded
      rw [if_neg hnew]
      have hlt : a + n + 1 < e := Nat.lt_of_not_le hnew
      have hinc : offsOf (curInc (tr ++ [Obs.polled s.stored (msgRun st e),
          Obs.yield ⟨pid, msgAt (a + n + 1)⟩])) = List.range' a (n + 1 + 1) := by
        rw [List.append_cons, offsOf_curInc_snoc_yield, offsOf_curInc_snoc_polled, hi, range'_snoc a (n + 1)]; rfl
      have hlen' : a + (n + 1) + (e - (a + n + 2)) < (s.polled cfg.polling st e).len := by rw [s.polled_len]; omega
      refine ⟨.going a (n + 1) (e - (a + n + 2)) hinc rfl rfl rfl hlen'
          (fun hn => s.polled_stored_le _ (fun so hso' => Nat.le_trans (hso hn so hso') (by omega)) (fun _ => by omega))
          (hst.consume hg (Or.inl rfl)) ?_ ?_ ?_,
        h.g.polled_yield st e (a + n + 1) hle hlt hel (by rw [lastYield_going hi])⟩
      · rw [hinc]
        exact pending_consume (hi ▸ hp) (fun _ hx => mem_ite_single hx)
      · intro hrw hn hm
        rw [s.polled_same (Or.inl hm.not_polling)]
        exact (hC hrw hn hm).consume (by simp [hm.not_polling, (hC hrw hn hm).touched]) rfl
      · intro hrw hn hpol
        obtain ⟨hpe, hbb, so, hso', hle'⟩ := hP hrw hn hpol
        exact ⟨by simp [hpe, polling_commitNow hpol, polling_afterAll hpol], by omega, e - 1,
          s.polled_stored hpol (by omega), by omega⟩

theorem Inv.step (hg : Good cfg strat0) (h : Inv rew cfg pid strat0 srv0 sys tr) (e : Ev) :
    Inv rew cfg pid strat0 srv0 (step cfg pid strat0 sys e).1 (tr ++ (step cfg pid strat0 sys e).2) := by
  cases e with
  | pop => exact h.pop hg
  | poll => exact h.poll hg
  | deliver => exact h.deliver
  | tick => exact h.tick
  | append k => exact h.append k
  | drop => exact h.drop

theorem Reach.inv (hg : Good cfg strat0) {sys : Sys} {tr : List Obs} (h : Reach cfg pid strat0 srv0 sys tr) :
    Inv rew cfg pid strat0 srv0 sys tr := by
  induction h with
  | init => exact Inv.init
  | step e _ ih => exact ih.step hg e

theorem run_reach {sys : Sys} {tr : List Obs} (h : Reach cfg pid strat0 srv0 sys tr) (evs : List Ev) :
    Reach cfg pid strat0 srv0 (run cfg pid strat0 sys evs).1 (tr ++ (run cfg pid strat0 sys evs).2) := by
  induction evs generalizing sys tr with
  | nil => simpa [run] using h
  | cons e es ih =>
    have := ih (h.step e)
    simpa [run, List.append_assoc] using this

theorem run_append (sys : Sys) (es fs : List Ev) :
    run cfg pid strat0 sys (es ++ fs) =
      ((run cfg pid strat0 (run cfg pid strat0 sys es).1 fs).1,
       (run cfg pid strat0 sys es).2 ++ (run cfg pid strat0 (run cfg pid strat0 sys es).1 fs).2) := by
  induction es generalizing sys with
  | nil => simp [run]
  | cons e es ih => simp [run, ih, List.append_assoc]

theorem reach_run {sys : Sys} {tr : List Obs} (h : Reach cfg pid strat0 srv0 sys tr) :
    ∃ evs, run cfg pid strat0 (Cons.new strat0, srv0) evs = (sys, tr) := by
  induction h with
  | init => exact ⟨[], rfl⟩
  | step e _ ih =>
    obtain ⟨evs, he⟩ := ih
    exact ⟨evs ++ [e], by rw [run_append, he]; simp [run]⟩

end Iggy.Sdk

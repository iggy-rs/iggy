/-
C09 — an authenticated user's request is performed only if the user's global, per-stream or per-topic
permissions grant it under the documented hierarchy; a permission on one stream or topic never opens
another; evaluating permissions never crashes whatever combination of records the user has; granting
a user more permissions never turns an allowed request into a denied one; the root user can do
everything; changes to or deletion of a user's permissions apply to that user's next request.

Model: the rule functions `rule_*` are GENERATED from server/src/streaming/users/permissioner_rules/*.rs
(Iggy/Perm/Generated.lean, re-created on every run); the tables and their maintenance
(`initUser`/`deleteUser`/`updateUser`, `tablesOf`) are Iggy/Perm/Tables.lean; the documented hierarchy
(`Grants`, `needs`) is Iggy/Perm/Spec.lean.  All statements are for ALL permission records
`p : Option Permissions` — unbounded stream and topic maps, repeated keys allowed (map semantics via
`dedupKeys`) — and all user / stream / topic ids.

Three facts are proved rule by rule, for every entry of `allRules` (Iggy/Perm/RuleFacts.lean): a rule
reads the tables only through `Tables.view` (`rules_read_view`); on `tablesOf u p` it is a disjunction of
flags of the record, `ok` iff `allowed` (`rules_flags`); a flag that suffices for it grants what it needs
(`rules_sound`).  A fourth, `rules_root` (for every rule some global flag suffices), is decided on the rule
table.  Everything below follows from these and from what Iggy/Perm/Flags.lean says about `allowed`; the
per-rule theorems are instances of the uniform ones.
-/
import Iggy.Perm.RuleFacts
namespace Iggy.Props.C09
open Iggy.Perm

/-! ## The tables answer what the record says

`Tables.view t u s` packs the six lookups a rule evaluated for user `u` at stream `s` performs;
`viewOf p s` the same six answers read off the record `p`. -/

theorem lookup_global (u : Nat) (p : Option Permissions) :
    alGet (tablesOf u p).users_permissions u = p.map (·.global) :=
  congrArg View.g (tablesOf_view u 0 p)

theorem lookup_stream (u s : Nat) (p : Option Permissions) :
    alGet (tablesOf u p).users_streams_permissions (u, s) = p.bind (fun p => streamRec p s) :=
  congrArg View.sr (tablesOf_view u s p)

theorem lookup_poll_all (u : Nat) (p : Option Permissions) :
    (tablesOf u p).users_that_can_poll_messages_from_all_streams.contains u =
      (match p with | some p => p.global.poll_messages | none => false) :=
  congrArg View.pollAll (tablesOf_view u 0 p)

theorem lookup_send_all (u : Nat) (p : Option Permissions) :
    (tablesOf u p).users_that_can_send_messages_to_all_streams.contains u =
      (match p with | some p => p.global.send_messages | none => false) :=
  congrArg View.sendAll (tablesOf_view u 0 p)

theorem lookup_poll_stream (u s : Nat) (p : Option Permissions) :
    (tablesOf u p).users_that_can_poll_messages_from_specific_streams.contains (u, s) =
      (match p with | some p => sflag p s (·.poll_messages) | none => false) :=
  congrArg View.pollS (tablesOf_view u s p)

theorem lookup_send_stream (u s : Nat) (p : Option Permissions) :
    (tablesOf u p).users_that_can_send_messages_to_specific_streams.contains (u, s) =
      (match p with | some p => sflag p s (·.send_messages) | none => false) :=
  congrArg View.sendS (tablesOf_view u s p)

/-- `dedupKeys` gives the stream map of a record map semantics: the last binding of a key wins. -/
theorem stream_map_last_wins (l : List (Nat × StreamPermissions)) (s : Nat) :
    alGet (dedupKeys l) s = alGet l.reverse s := alGet_dedupKeys l s

/-- Tables that also hold OTHER users: on tables with nothing of `u` (`Tables.Free`),
`init_permissions_for_user u p` makes all six lookups of `u` answer what `p` says … -/
theorem init_lookup (t0 : Tables) (u s : Nat) (p : Option Permissions) (hf : t0.Free u) :
    (t0.initUser u p).view u s = viewOf p s := initUser_view t0 u s p hf

/-- … and changes no lookup of any other user. -/
theorem init_other (t0 : Tables) (u u' s : Nat) (p : Option Permissions) (h : u' ≠ u) :
    (t0.initUser u p).view u' s = t0.view u' s := initUser_view_other t0 u u' s p h

theorem empty_free (u : Nat) : ({} : Tables).Free u := Tables.free_empty u

/-- `delete_permissions_for_user u` leaves nothing of `u` … -/
theorem delete_free (t0 : Tables) (u : Nat) : (t0.deleteUser u).Free u := deleteUser_free t0 u

/-- … and changes no lookup of any other user. -/
theorem delete_other (t0 : Tables) (u u' s : Nat) (h : u' ≠ u) :
    (t0.deleteUser u).view u' s = t0.view u' s := deleteUser_view_other t0 u u' s h

/-- `update_permissions_for_user u p`, on ANY tables: the lookups of `u` answer what `p` says. -/
theorem update_lookup (t0 : Tables) (u s : Nat) (p : Option Permissions) :
    (t0.updateUser u p).view u s = viewOf p s := updateUser_view t0 u s p

theorem update_other (t0 : Tables) (u u' s : Nat) (p : Option Permissions) (h : u' ≠ u) :
    (t0.updateUser u p).view u' s = t0.view u' s := updateUser_view_other t0 u u' s p h

/-! ## Soundness -/

/-- **Sound**, uniformly over the rule table: a public rule answers `ok` only if the user's record
grants, under the documented hierarchy, the capability the rule needs. -/
theorem sound (u s tp : Nat) (p : Option Permissions) :
    ∀ name f, (name, f) ∈ allRules → name ∈ publicRules → ∀ c, needs name s tp = some c →
      f (tablesOf u p) u s tp = Res.ok → Grants p c = true :=
  fun _ _ hm _ _ hc h => sound_of_mem hm hc h

theorem sound_append_messages (u s tp : Nat) (p : Option Permissions) :
    rule_append_messages (tablesOf u p) u s tp = Res.ok → Grants p (.send s tp) = true :=
  sound_of_mem (by rule_mem) rfl

theorem sound_change_password (u : Nat) (p : Option Permissions) :
    rule_change_password (tablesOf u p) u = Res.ok → Grants p .manageUsers = true :=
  sound_of_mem (name := "change_password") (s := 0) (tp := 0) (by rule_mem) rfl

theorem sound_create_consumer_group (u s tp : Nat) (p : Option Permissions) :
    rule_create_consumer_group (tablesOf u p) u s tp = Res.ok → Grants p (.readTopic s tp) = true :=
  sound_of_mem (by rule_mem) rfl

theorem sound_create_partitions (u s tp : Nat) (p : Option Permissions) :
    rule_create_partitions (tablesOf u p) u s tp = Res.ok → Grants p (.manageTopic s tp) = true :=
  sound_of_mem (by rule_mem) rfl

theorem sound_create_stream (u : Nat) (p : Option Permissions) :
    rule_create_stream (tablesOf u p) u = Res.ok → Grants p .createStream = true :=
  sound_of_mem (name := "create_stream") (s := 0) (tp := 0) (by rule_mem) rfl

theorem sound_create_topic (u s : Nat) (p : Option Permissions) :
    rule_create_topic (tablesOf u p) u s = Res.ok → Grants p (.createTopic s) = true :=
  sound_of_mem (name := "create_topic") (tp := 0) (by rule_mem) rfl

theorem sound_create_user (u : Nat) (p : Option Permissions) :
    rule_create_user (tablesOf u p) u = Res.ok → Grants p .manageUsers = true :=
  sound_of_mem (name := "create_user") (s := 0) (tp := 0) (by rule_mem) rfl

theorem sound_delete_consumer_group (u s tp : Nat) (p : Option Permissions) :
    rule_delete_consumer_group (tablesOf u p) u s tp = Res.ok → Grants p (.readTopic s tp) = true :=
  sound_of_mem (by rule_mem) rfl

theorem sound_delete_consumer_offset (u s tp : Nat) (p : Option Permissions) :
    rule_delete_consumer_offset (tablesOf u p) u s tp = Res.ok → Grants p (.poll s tp) = true :=
  sound_of_mem (by rule_mem) rfl

theorem sound_delete_partitions (u s tp : Nat) (p : Option Permissions) :
    rule_delete_partitions (tablesOf u p) u s tp = Res.ok → Grants p (.manageTopic s tp) = true :=
  sound_of_mem (by rule_mem) rfl

theorem sound_delete_stream (u s : Nat) (p : Option Permissions) :
    rule_delete_stream (tablesOf u p) u s = Res.ok → Grants p (.manageStream s) = true :=
  sound_of_mem (name := "delete_stream") (tp := 0) (by rule_mem) rfl

theorem sound_delete_topic (u s tp : Nat) (p : Option Permissions) :
    rule_delete_topic (tablesOf u p) u s tp = Res.ok → Grants p (.manageTopic s tp) = true :=
  sound_of_mem (by rule_mem) rfl

theorem sound_delete_user (u : Nat) (p : Option Permissions) :
    rule_delete_user (tablesOf u p) u = Res.ok → Grants p .manageUsers = true :=
  sound_of_mem (name := "delete_user") (s := 0) (tp := 0) (by rule_mem) rfl

theorem sound_get_client (u : Nat) (p : Option Permissions) :
    rule_get_client (tablesOf u p) u = Res.ok → Grants p .readServers = true :=
  sound_of_mem (name := "get_client") (s := 0) (tp := 0) (by rule_mem) rfl

theorem sound_get_clients (u : Nat) (p : Option Permissions) :
    rule_get_clients (tablesOf u p) u = Res.ok → Grants p .readServers = true :=
  sound_of_mem (name := "get_clients") (s := 0) (tp := 0) (by rule_mem) rfl

theorem sound_get_consumer_group (u s tp : Nat) (p : Option Permissions) :
    rule_get_consumer_group (tablesOf u p) u s tp = Res.ok → Grants p (.readTopic s tp) = true :=
  sound_of_mem (by rule_mem) rfl

theorem sound_get_consumer_groups (u s tp : Nat) (p : Option Permissions) :
    rule_get_consumer_groups (tablesOf u p) u s tp = Res.ok → Grants p (.readTopic s tp) = true :=
  sound_of_mem (by rule_mem) rfl

theorem sound_get_consumer_offset (u s tp : Nat) (p : Option Permissions) :
    rule_get_consumer_offset (tablesOf u p) u s tp = Res.ok → Grants p (.poll s tp) = true :=
  sound_of_mem (by rule_mem) rfl

theorem sound_get_stats (u : Nat) (p : Option Permissions) :
    rule_get_stats (tablesOf u p) u = Res.ok → Grants p .readServers = true :=
  sound_of_mem (name := "get_stats") (s := 0) (tp := 0) (by rule_mem) rfl

theorem sound_get_stream (u s : Nat) (p : Option Permissions) :
    rule_get_stream (tablesOf u p) u s = Res.ok → Grants p (.readStream s) = true :=
  sound_of_mem (name := "get_stream") (tp := 0) (by rule_mem) rfl

theorem sound_get_streams (u : Nat) (p : Option Permissions) :
    rule_get_streams (tablesOf u p) u = Res.ok → Grants p .listStreams = true :=
  sound_of_mem (name := "get_streams") (s := 0) (tp := 0) (by rule_mem) rfl

theorem sound_get_topic (u s tp : Nat) (p : Option Permissions) :
    rule_get_topic (tablesOf u p) u s tp = Res.ok → Grants p (.readTopic s tp) = true :=
  sound_of_mem (by rule_mem) rfl

theorem sound_get_topics (u s : Nat) (p : Option Permissions) :
    rule_get_topics (tablesOf u p) u s = Res.ok → Grants p (.listTopics s) = true :=
  sound_of_mem (name := "get_topics") (tp := 0) (by rule_mem) rfl

theorem sound_get_user (u : Nat) (p : Option Permissions) :
    rule_get_user (tablesOf u p) u = Res.ok → Grants p .readUsers = true :=
  sound_of_mem (name := "get_user") (s := 0) (tp := 0) (by rule_mem) rfl

theorem sound_get_users (u : Nat) (p : Option Permissions) :
    rule_get_users (tablesOf u p) u = Res.ok → Grants p .readUsers = true :=
  sound_of_mem (name := "get_users") (s := 0) (tp := 0) (by rule_mem) rfl

theorem sound_join_consumer_group (u s tp : Nat) (p : Option Permissions) :
    rule_join_consumer_group (tablesOf u p) u s tp = Res.ok → Grants p (.readTopic s tp) = true :=
  sound_of_mem (by rule_mem) rfl

theorem sound_leave_consumer_group (u s tp : Nat) (p : Option Permissions) :
    rule_leave_consumer_group (tablesOf u p) u s tp = Res.ok → Grants p (.readTopic s tp) = true :=
  sound_of_mem (by rule_mem) rfl

theorem sound_poll_messages (u s tp : Nat) (p : Option Permissions) :
    rule_poll_messages (tablesOf u p) u s tp = Res.ok → Grants p (.poll s tp) = true :=
  sound_of_mem (by rule_mem) rfl

theorem sound_purge_stream (u s : Nat) (p : Option Permissions) :
    rule_purge_stream (tablesOf u p) u s = Res.ok → Grants p (.manageStream s) = true :=
  sound_of_mem (name := "purge_stream") (tp := 0) (by rule_mem) rfl

theorem sound_purge_topic (u s tp : Nat) (p : Option Permissions) :
    rule_purge_topic (tablesOf u p) u s tp = Res.ok → Grants p (.manageTopic s tp) = true :=
  sound_of_mem (by rule_mem) rfl

theorem sound_store_consumer_offset (u s tp : Nat) (p : Option Permissions) :
    rule_store_consumer_offset (tablesOf u p) u s tp = Res.ok → Grants p (.poll s tp) = true :=
  sound_of_mem (by rule_mem) rfl

theorem sound_update_permissions (u : Nat) (p : Option Permissions) :
    rule_update_permissions (tablesOf u p) u = Res.ok → Grants p .manageUsers = true :=
  sound_of_mem (name := "update_permissions") (s := 0) (tp := 0) (by rule_mem) rfl

theorem sound_update_stream (u s : Nat) (p : Option Permissions) :
    rule_update_stream (tablesOf u p) u s = Res.ok → Grants p (.manageStream s) = true :=
  sound_of_mem (name := "update_stream") (tp := 0) (by rule_mem) rfl

theorem sound_update_topic (u s tp : Nat) (p : Option Permissions) :
    rule_update_topic (tablesOf u p) u s tp = Res.ok → Grants p (.manageTopic s tp) = true :=
  sound_of_mem (by rule_mem) rfl

theorem sound_update_user (u : Nat) (p : Option Permissions) :
    rule_update_user (tablesOf u p) u = Res.ok → Grants p .manageUsers = true :=
  sound_of_mem (name := "update_user") (s := 0) (tp := 0) (by rule_mem) rfl

/-- `sound` says something about every public rule: each has a documented capability … -/
theorem needs_total : ∀ n ∈ publicRules, ∀ s tp : Nat, (needs n s tp).isSome = true := by
  simp only [publicRules, List.forall_mem_cons, List.not_mem_nil, false_imp_iff, implies_true, and_true]
  and_intros <;> (intro s tp; rfl)

/-- … and each is in the rule table. -/
theorem public_in_table : ∀ n ∈ publicRules, n ∈ allRules.map (·.1) := by decide +kernel

/-- A user without permission record is refused everything (all 40 rules). -/
theorem no_record_denied (u s tp : Nat) :
    ∀ name f, (name, f) ∈ allRules → f (tablesOf u none) u s tp = Res.unauthorized :=
  fun _ _ hm => flags_of_mem hm u s tp none

/-! ## No panic (public and private rules) -/

/-- **No panic**, uniformly: no rule (public or private) panics, for every record — in particular
for records with a stream entry without topic table. -/
theorem no_panic (u s tp : Nat) (p : Option Permissions) :
    ∀ name f, (name, f) ∈ allRules → f (tablesOf u p) u s tp ≠ Res.panic :=
  fun _ _ hm => no_panic_of_mem hm

theorem no_panic_append_messages (u s tp : Nat) (p : Option Permissions) :
    rule_append_messages (tablesOf u p) u s tp ≠ Res.panic :=
  no_panic_of_mem (by rule_mem)

theorem no_panic_change_password (u : Nat) (p : Option Permissions) :
    rule_change_password (tablesOf u p) u ≠ Res.panic :=
  no_panic_of_mem (name := "change_password") (s := 0) (tp := 0) (by rule_mem)

theorem no_panic_create_consumer_group (u s tp : Nat) (p : Option Permissions) :
    rule_create_consumer_group (tablesOf u p) u s tp ≠ Res.panic :=
  no_panic_of_mem (by rule_mem)

theorem no_panic_create_partitions (u s tp : Nat) (p : Option Permissions) :
    rule_create_partitions (tablesOf u p) u s tp ≠ Res.panic :=
  no_panic_of_mem (by rule_mem)

theorem no_panic_create_stream (u : Nat) (p : Option Permissions) :
    rule_create_stream (tablesOf u p) u ≠ Res.panic :=
  no_panic_of_mem (name := "create_stream") (s := 0) (tp := 0) (by rule_mem)

theorem no_panic_create_topic (u s : Nat) (p : Option Permissions) :
    rule_create_topic (tablesOf u p) u s ≠ Res.panic :=
  no_panic_of_mem (name := "create_topic") (tp := 0) (by rule_mem)

theorem no_panic_create_user (u : Nat) (p : Option Permissions) :
    rule_create_user (tablesOf u p) u ≠ Res.panic :=
  no_panic_of_mem (name := "create_user") (s := 0) (tp := 0) (by rule_mem)

theorem no_panic_delete_consumer_group (u s tp : Nat) (p : Option Permissions) :
    rule_delete_consumer_group (tablesOf u p) u s tp ≠ Res.panic :=
  no_panic_of_mem (by rule_mem)

theorem no_panic_delete_consumer_offset (u s tp : Nat) (p : Option Permissions) :
    rule_delete_consumer_offset (tablesOf u p) u s tp ≠ Res.panic :=
  no_panic_of_mem (by rule_mem)

theorem no_panic_delete_partitions (u s tp : Nat) (p : Option Permissions) :
    rule_delete_partitions (tablesOf u p) u s tp ≠ Res.panic :=
  no_panic_of_mem (by rule_mem)

theorem no_panic_delete_stream (u s : Nat) (p : Option Permissions) :
    rule_delete_stream (tablesOf u p) u s ≠ Res.panic :=
  no_panic_of_mem (name := "delete_stream") (tp := 0) (by rule_mem)

theorem no_panic_delete_topic (u s tp : Nat) (p : Option Permissions) :
    rule_delete_topic (tablesOf u p) u s tp ≠ Res.panic :=
  no_panic_of_mem (by rule_mem)

theorem no_panic_delete_user (u : Nat) (p : Option Permissions) :
    rule_delete_user (tablesOf u p) u ≠ Res.panic :=
  no_panic_of_mem (name := "delete_user") (s := 0) (tp := 0) (by rule_mem)

theorem no_panic_get_client (u : Nat) (p : Option Permissions) :
    rule_get_client (tablesOf u p) u ≠ Res.panic :=
  no_panic_of_mem (name := "get_client") (s := 0) (tp := 0) (by rule_mem)

theorem no_panic_get_clients (u : Nat) (p : Option Permissions) :
    rule_get_clients (tablesOf u p) u ≠ Res.panic :=
  no_panic_of_mem (name := "get_clients") (s := 0) (tp := 0) (by rule_mem)

theorem no_panic_get_consumer_group (u s tp : Nat) (p : Option Permissions) :
    rule_get_consumer_group (tablesOf u p) u s tp ≠ Res.panic :=
  no_panic_of_mem (by rule_mem)

theorem no_panic_get_consumer_groups (u s tp : Nat) (p : Option Permissions) :
    rule_get_consumer_groups (tablesOf u p) u s tp ≠ Res.panic :=
  no_panic_of_mem (by rule_mem)

theorem no_panic_get_consumer_offset (u s tp : Nat) (p : Option Permissions) :
    rule_get_consumer_offset (tablesOf u p) u s tp ≠ Res.panic :=
  no_panic_of_mem (by rule_mem)

theorem no_panic_get_server_info (u : Nat) (p : Option Permissions) :
    rule_get_server_info (tablesOf u p) u ≠ Res.panic :=
  no_panic_of_mem (name := "get_server_info") (s := 0) (tp := 0) (by rule_mem)

theorem no_panic_get_stats (u : Nat) (p : Option Permissions) :
    rule_get_stats (tablesOf u p) u ≠ Res.panic :=
  no_panic_of_mem (name := "get_stats") (s := 0) (tp := 0) (by rule_mem)

theorem no_panic_get_stream (u s : Nat) (p : Option Permissions) :
    rule_get_stream (tablesOf u p) u s ≠ Res.panic :=
  no_panic_of_mem (name := "get_stream") (tp := 0) (by rule_mem)

theorem no_panic_get_streams (u : Nat) (p : Option Permissions) :
    rule_get_streams (tablesOf u p) u ≠ Res.panic :=
  no_panic_of_mem (name := "get_streams") (s := 0) (tp := 0) (by rule_mem)

theorem no_panic_get_topic (u s tp : Nat) (p : Option Permissions) :
    rule_get_topic (tablesOf u p) u s tp ≠ Res.panic :=
  no_panic_of_mem (by rule_mem)

theorem no_panic_get_topics (u s : Nat) (p : Option Permissions) :
    rule_get_topics (tablesOf u p) u s ≠ Res.panic :=
  no_panic_of_mem (name := "get_topics") (tp := 0) (by rule_mem)

theorem no_panic_get_user (u : Nat) (p : Option Permissions) :
    rule_get_user (tablesOf u p) u ≠ Res.panic :=
  no_panic_of_mem (name := "get_user") (s := 0) (tp := 0) (by rule_mem)

theorem no_panic_get_users (u : Nat) (p : Option Permissions) :
    rule_get_users (tablesOf u p) u ≠ Res.panic :=
  no_panic_of_mem (name := "get_users") (s := 0) (tp := 0) (by rule_mem)

theorem no_panic_join_consumer_group (u s tp : Nat) (p : Option Permissions) :
    rule_join_consumer_group (tablesOf u p) u s tp ≠ Res.panic :=
  no_panic_of_mem (by rule_mem)

theorem no_panic_leave_consumer_group (u s tp : Nat) (p : Option Permissions) :
    rule_leave_consumer_group (tablesOf u p) u s tp ≠ Res.panic :=
  no_panic_of_mem (by rule_mem)

theorem no_panic_manage_stream (u s : Nat) (p : Option Permissions) :
    rule_manage_stream (tablesOf u p) u s ≠ Res.panic :=
  no_panic_of_mem (name := "manage_stream") (tp := 0) (by rule_mem)

theorem no_panic_manage_topic (u s tp : Nat) (p : Option Permissions) :
    rule_manage_topic (tablesOf u p) u s tp ≠ Res.panic :=
  no_panic_of_mem (by rule_mem)

theorem no_panic_manager_users (u : Nat) (p : Option Permissions) :
    rule_manager_users (tablesOf u p) u ≠ Res.panic :=
  no_panic_of_mem (name := "manager_users") (s := 0) (tp := 0) (by rule_mem)

theorem no_panic_poll_messages (u s tp : Nat) (p : Option Permissions) :
    rule_poll_messages (tablesOf u p) u s tp ≠ Res.panic :=
  no_panic_of_mem (by rule_mem)

theorem no_panic_purge_stream (u s : Nat) (p : Option Permissions) :
    rule_purge_stream (tablesOf u p) u s ≠ Res.panic :=
  no_panic_of_mem (name := "purge_stream") (tp := 0) (by rule_mem)

theorem no_panic_purge_topic (u s tp : Nat) (p : Option Permissions) :
    rule_purge_topic (tablesOf u p) u s tp ≠ Res.panic :=
  no_panic_of_mem (by rule_mem)

theorem no_panic_read_users (u : Nat) (p : Option Permissions) :
    rule_read_users (tablesOf u p) u ≠ Res.panic :=
  no_panic_of_mem (name := "read_users") (s := 0) (tp := 0) (by rule_mem)

theorem no_panic_store_consumer_offset (u s tp : Nat) (p : Option Permissions) :
    rule_store_consumer_offset (tablesOf u p) u s tp ≠ Res.panic :=
  no_panic_of_mem (by rule_mem)

theorem no_panic_update_permissions (u : Nat) (p : Option Permissions) :
    rule_update_permissions (tablesOf u p) u ≠ Res.panic :=
  no_panic_of_mem (name := "update_permissions") (s := 0) (tp := 0) (by rule_mem)

theorem no_panic_update_stream (u s : Nat) (p : Option Permissions) :
    rule_update_stream (tablesOf u p) u s ≠ Res.panic :=
  no_panic_of_mem (name := "update_stream") (tp := 0) (by rule_mem)

theorem no_panic_update_topic (u s tp : Nat) (p : Option Permissions) :
    rule_update_topic (tablesOf u p) u s tp ≠ Res.panic :=
  no_panic_of_mem (by rule_mem)

theorem no_panic_update_user (u : Nat) (p : Option Permissions) :
    rule_update_user (tablesOf u p) u ≠ Res.panic :=
  no_panic_of_mem (name := "update_user") (s := 0) (tp := 0) (by rule_mem)

/-! ## A permission on one stream or topic never opens another -/

/-- A rule evaluated for `(u, s, tp)` reads the tables only through the six lookups keyed by `u`
and `(u, s)`. -/
theorem reads_only_view (t t' : Tables) (u s tp : Nat) :
    ∀ name f, (name, f) ∈ allRules → t.view u s = t'.view u s → f t u s tp = f t' u s tp :=
  fun name f hm h => rules_read_view (name, f) hm t t' u s tp h

/-- **Local, topic level**: of the record of stream `s` only the stream-level flags and the entry
of topic `tp` matter (`topicSight tp sp = ({sp with topics := none}, topicRec sp tp)`). -/
theorem rule_local_topic (u s tp : Nat) (p p' : Option Permissions) :
    ∀ name f, (name, f) ∈ allRules →
      p.map (·.global) = p'.map (·.global) →
      (p.bind (fun p => streamRec p s)).map (topicSight tp) =
        (p'.bind (fun p => streamRec p s)).map (topicSight tp) →
      f (tablesOf u p) u s tp = f (tablesOf u p') u s tp :=
  fun _ _ hm hg hs => by rw [flags_of_mem hm, flags_of_mem hm, allowed_congr hg hs]

/-- **Local**: the outcome at `(u, s, tp)` depends only on the global record and the record of
stream `s`. -/
theorem rule_local (u s tp : Nat) (p p' : Option Permissions) :
    ∀ name f, (name, f) ∈ allRules →
      p.map (·.global) = p'.map (·.global) →
      p.bind (fun p => streamRec p s) = p'.bind (fun p => streamRec p s) →
      f (tablesOf u p) u s tp = f (tablesOf u p') u s tp :=
  fun name f hm hg hs => rule_local_topic u s tp p p' name f hm hg (congrArg _ hs)

/-- `Local` (the name Iggy/Perm/Tables.lean and Iggy/Perm/Enum.lean refer to): the topic-level
statement — it is what makes the enumerated record space of Iggy/Perm/Enum.lean (one stream entry,
one topic entry) exhaustive. -/
theorem Local (u s tp : Nat) (p p' : Option Permissions) :
    ∀ name f, (name, f) ∈ allRules →
      p.map (·.global) = p'.map (·.global) →
      (p.bind (fun p => streamRec p s)).map (topicSight tp) =
        (p'.bind (fun p => streamRec p s)).map (topicSight tp) →
      f (tablesOf u p) u s tp = f (tablesOf u p') u s tp := rule_local_topic u s tp p p'

/-- Writing (adding or replacing) the record of ANOTHER stream `s' ≠ s` changes no outcome at
`(s, tp)`. -/
theorem other_stream_irrelevant (u s s' tp : Nat) (p : Permissions) (sp' : StreamPermissions)
    (hne : s' ≠ s) :
    ∀ name f, (name, f) ∈ allRules →
      f (tablesOf u (some (p.setStream s' sp'))) u s tp = f (tablesOf u (some p)) u s tp := by
  intro name f hm
  apply rule_local u s tp _ _ name f hm
  · rfl
  · simp only [Option.bind_some, streamRec_setStream, if_neg hne]

/-- Writing the entry of ANOTHER topic `tp' ≠ tp` inside the record of stream `s` changes no
outcome at `(s, tp)`. -/
theorem other_topic_irrelevant (u s tp tp' : Nat) (p : Permissions) (sp : StreamPermissions)
    (t' : TopicPermissions) (hsp : streamRec p s = some sp) (hne : tp' ≠ tp) :
    ∀ name f, (name, f) ∈ allRules →
      f (tablesOf u (some (p.setStream s (sp.setTopic tp' t')))) u s tp =
        f (tablesOf u (some p)) u s tp := by
  intro name f hm
  apply rule_local_topic u s tp _ _ name f hm
  · rfl
  · simp only [Option.bind_some, streamRec_setStream, if_true, hsp, Option.map_some,
      topicSight_setTopic _ _ _ _ hne]

/-- In particular a record that has nothing but entries for OTHER streams is refused whatever the
global record refuses: the outcome is that of the record without stream map. -/
theorem only_other_streams (u s tp : Nat) (p : Permissions) (h : streamRec p s = none) :
    ∀ name f, (name, f) ∈ allRules →
      f (tablesOf u (some p)) u s tp = f (tablesOf u (some { p with streams := none })) u s tp := by
  intro name f hm
  apply rule_local u s tp _ _ name f hm
  · rfl
  · simp only [Option.bind_some, h]; rfl

/-! ## More permissions never deny -/

/-- **Monotone**: if `p'` has every flag `p` has on every level (`Permissions.le`), every request
`p` allows is allowed under `p'` (all 40 rules). -/
theorem monotone (u s tp : Nat) (p p' : Permissions) (hle : p.le p') :
    ∀ name f, (name, f) ∈ allRules →
      f (tablesOf u (some p)) u s tp = Res.ok → f (tablesOf u (some p')) u s tp = Res.ok :=
  fun _ _ hm h => by
    rw [flags_of_mem hm] at h ⊢
    rw [if_pos (allowed_mono hle (by split at h <;> first | assumption | cases h))]

/-- `Permissions.le` is not empty: it is reflexive … -/
theorem le_refl (p : Permissions) : p.le p :=
  ⟨by simp [gLe], fun s sp hs => ⟨sp, hs, by simp [spLe], fun tp t ht => ⟨t, ht, by simp [tpLe]⟩⟩⟩

/-- … and giving a user without any record one is "more" too: nothing is allowed before. -/
theorem monotone_from_none (u s tp : Nat) (p' : Option Permissions) :
    ∀ name f, (name, f) ∈ allRules →
      f (tablesOf u none) u s tp = Res.ok → f (tablesOf u p') u s tp = Res.ok := by
  intro name f hm h
  rw [no_record_denied u s tp name f hm] at h
  cases h

/-! ## Root can do everything -/

/-- **Root**: the root record passes every rule, at every stream and topic. -/
theorem root_all (u s tp : Nat) :
    ∀ name f, (name, f) ∈ allRules → f (tablesOf u (some Permissions.root)) u s tp = Res.ok :=
  fun _ _ hm => by
    obtain ⟨i, hi, h⟩ := rules_root _ hm
    rw [flags_of_mem hm, if_pos (allowed_root hi h s tp)]

/-! ## Updates and deletion apply to the next request -/

/-- **Update applies next**: after `update_permissions_for_user u p` on ANY tables, every rule
evaluated for `u` answers exactly as on the tables of the new record alone — the old record has no
influence. -/
theorem update_applies_next (t0 : Tables) (u s tp : Nat) (p : Option Permissions) :
    ∀ name f, (name, f) ∈ allRules → f (t0.updateUser u p) u s tp = f (tablesOf u p) u s tp :=
  fun name f hm => rules_read_view (name, f) hm _ _ u s tp (by rw [updateUser_view, tablesOf_view])

/-- The same for the first `init_permissions_for_user` of a user the tables hold nothing of. -/
theorem init_applies_next (t0 : Tables) (u s tp : Nat) (p : Option Permissions) (hf : t0.Free u) :
    ∀ name f, (name, f) ∈ allRules → f (t0.initUser u p) u s tp = f (tablesOf u p) u s tp :=
  fun name f hm => rules_read_view (name, f) hm _ _ u s tp (by rw [initUser_view _ _ _ _ hf, tablesOf_view])

/-- Deletion applies next: after `delete_permissions_for_user u`, as a user without record. -/
theorem delete_applies_next (t0 : Tables) (u s tp : Nat) :
    ∀ name f, (name, f) ∈ allRules → f (t0.deleteUser u) u s tp = f (tablesOf u none) u s tp :=
  fun name f hm => rules_read_view (name, f) hm _ _ u s tp
    (by rw [deleteUser_free t0 u s, tablesOf_view])

/-- **Deleted user denied**: every rule refuses a deleted user. -/
theorem deleted_user_denied (t0 : Tables) (u s tp : Nat) :
    ∀ name f, (name, f) ∈ allRules → f (t0.deleteUser u) u s tp = Res.unauthorized := by
  intro name f hm
  rw [delete_applies_next t0 u s tp name f hm]
  exact no_record_denied u s tp name f hm

/-- Updating `u` changes nothing for any other user `u'`. -/
theorem update_other_user_unaffected (t0 : Tables) (u u' s tp : Nat) (p : Option Permissions)
    (h : u' ≠ u) :
    ∀ name f, (name, f) ∈ allRules → f (t0.updateUser u p) u' s tp = f t0 u' s tp :=
  fun name f hm => rules_read_view (name, f) hm _ _ u' s tp (updateUser_view_other t0 u u' s p h)

/-- Deleting `u` changes nothing for any other user `u'`. -/
theorem delete_other_user_unaffected (t0 : Tables) (u u' s tp : Nat) (h : u' ≠ u) :
    ∀ name f, (name, f) ∈ allRules → f (t0.deleteUser u) u' s tp = f t0 u' s tp :=
  fun name f hm => rules_read_view (name, f) hm _ _ u' s tp (deleteUser_view_other t0 u u' s h)

/-- Sound on live tables: after `update_permissions_for_user u p` on any tables, a public rule
answers `ok` for `u` only if `p` grants what it needs. -/
theorem sound_after_update (t0 : Tables) (u s tp : Nat) (p : Option Permissions) :
    ∀ name f, (name, f) ∈ allRules → name ∈ publicRules → ∀ c, needs name s tp = some c →
      f (t0.updateUser u p) u s tp = Res.ok → Grants p c = true := by
  intro name f hm hp c hc h
  rw [update_applies_next t0 u s tp p name f hm] at h
  exact sound u s tp p name f hm hp c hc h

/-- No panic on live tables: after `update_permissions_for_user u p` on any tables. -/
theorem no_panic_after_update (t0 : Tables) (u s tp : Nat) (p : Option Permissions) :
    ∀ name f, (name, f) ∈ allRules → f (t0.updateUser u p) u s tp ≠ Res.panic := by
  intro name f hm
  rw [update_applies_next t0 u s tp p name f hm]
  exact no_panic u s tp p name f hm

/-! ## Non-vacuity -/

/-- the uniform statements instantiate to a named rule by `rule_mem` -/
example (t0 : Tables) (u s tp : Nat) (p : Option Permissions) :
    rule_poll_messages (t0.updateUser u p) u s tp = rule_poll_messages (tablesOf u p) u s tp :=
  update_applies_next t0 u s tp p "poll_messages" (fun t u s tp => rule_poll_messages t u s tp) (by rule_mem)

example (u s tp : Nat) : rule_append_messages (tablesOf u (some Permissions.root)) u s tp = Res.ok :=
  root_all u s tp "append_messages" (fun t u s tp => rule_append_messages t u s tp) (by rule_mem)

/-- a record with a stream entry WITHOUT topic table and without any useful flag -/
def exNoTopics : Permissions :=
  { global := ⟨false, false, false, false, false, false, false, false, false, false⟩
    streams := some [(3, ⟨false, false, false, false, false, false, none⟩)] }

/-- … is refused, not a panic — by the rules that `unwrap` in the Rust source too -/
example : rule_get_topic (tablesOf 7 (some exNoTopics)) 7 3 5 = Res.unauthorized := by decide
example : rule_poll_messages (tablesOf 7 (some exNoTopics)) 7 3 5 = Res.unauthorized := by decide
example : rule_append_messages (tablesOf 7 (some exNoTopics)) 7 3 5 = Res.unauthorized := by decide

/-- a record whose only permission is `read_topic` on topic 5 of stream 3 -/
def exTopic : Permissions :=
  { global := ⟨false, false, false, false, false, false, false, false, false, false⟩
    streams := some [(3, ⟨false, false, false, false, false, false,
      some [(5, ⟨false, true, false, false⟩)]⟩)] }

/-- … opens `get_topic` at (3, 5), and neither (3, 6) nor (4, 5); nor `update_topic` at (3, 5) -/
example : rule_get_topic (tablesOf 7 (some exTopic)) 7 3 5 = Res.ok := by decide
example : rule_get_topic (tablesOf 7 (some exTopic)) 7 3 6 = Res.unauthorized := by decide
example : rule_get_topic (tablesOf 7 (some exTopic)) 7 4 5 = Res.unauthorized := by decide
example : rule_update_topic (tablesOf 7 (some exTopic)) 7 3 5 = Res.unauthorized := by decide
example : Grants (some exTopic) (.readTopic 3 5) = true := by decide
example : Grants (some exTopic) (.readTopic 3 6) = false := by decide
/-- another user sees nothing of it, on the same tables -/
example : rule_get_topic (tablesOf 7 (some exTopic)) 8 3 5 = Res.unauthorized := by decide

/-- a repeated stream key: the last binding wins (map semantics), in the tables and in the spec -/
def exDup : Permissions :=
  { global := ⟨false, false, false, false, false, false, false, false, false, false⟩
    streams := some [(3, ⟨true, true, true, true, true, true, none⟩),
                     (3, ⟨false, false, false, false, false, false, none⟩)] }
example : rule_get_stream (tablesOf 7 (some exDup)) 7 3 = Res.unauthorized := by decide
example : Grants (some exDup) (.readStream 3) = false := by decide

/-- root, and the update/delete cycle on tables that hold two users -/
example : rule_append_messages (tablesOf 1 (some Permissions.root)) 1 3 5 = Res.ok := by decide
example : rule_create_user (tablesOf 1 (some Permissions.root)) 1 = Res.ok := by decide
example :
    let t := ((tablesOf 1 (some Permissions.root)).updateUser 7 (some exTopic))
    rule_get_topic t 7 3 5 = Res.ok ∧
    rule_get_topic (t.updateUser 7 (some exNoTopics)) 7 3 5 = Res.unauthorized ∧
    rule_get_topic (t.deleteUser 7) 7 3 5 = Res.unauthorized ∧
    rule_get_topic (t.deleteUser 7) 1 3 5 = Res.ok := by decide

/-- `Permissions.le` holds between different records: `exNoTopics ≤` the same record with root's global flags -/
example : exNoTopics.le { exNoTopics with global := Permissions.root.global } := by
  refine ⟨by decide, fun s sp hs => ⟨sp, hs, ?_, fun tp t ht => ⟨t, ht, ?_⟩⟩⟩
  · cases sp; simp [spLe]
  · cases t; simp [tpLe]

end Iggy.Props.C09


/-
`Part.create` and `Part.append` refine `SPart.create` and `SPart.append`.
-/
import Iggy.Log.Lemmas.Persist
import Iggy.Log.Lemmas.Number
namespace Iggy.Log

theorem create_inv {cfg : Cfg} (e : Option Nat) (now : Nat) (hseg : 0 < cfg.segSize) :
    (Part.create cfg e now).Inv cfg := by
  refine Part.inv_of_empty (now := now) hseg rfl ?_ ?_ ?_ rfl rfl rfl
  · intro c hc
    cases (Option.ite_none_right_eq_some.1 hc).2
    rfl
  · show (if cfg.cacheOn then some [] else none : Option (List Msg)).isSome = cfg.cacheOn
    cases cfg.cacheOn <;> rfl
  · show (if cfg.dedupOn then some [] else none : Option (List Nat)).isSome = cfg.dedupOn
    cases cfg.dedupOn <;> rfl

theorem create_abs (cfg : Cfg) (e : Option Nat) (now : Nat) :
    abs (Part.create cfg e now) = SPart.create cfg e := by
  simp [abs, Part.create, SPart.create, Part.msgs, Part.next]

/-! ## append, step 1: roll over to a fresh segment when the last one is closed -/

def Part.roll (cfg : Cfg) (p : Part) (now : Nat) : Part :=
  match p.segs.getLast? with
  | some last => if last.closed then p.addSegment cfg (last.endOff + 1) now else p
  | none => p

/-- the state after the accepted messages were numbered and buffered -/
def Part.accepted (p : Part) (d' : Option (List Nat)) (retained : List Msg) : Part :=
  { p with
    dedup := d', cur := p.next + (retained.length - 1), shouldInc := true
    segs := updLast p.segs (fun s => s.appendBatch (sumSizes retained) retained)
    cnt := { p.cnt with size := p.cnt.size + sumSizes retained, msgs := p.cnt.msgs + retained.length }
    cache := p.cache.map (· ++ retained), unsaved := p.unsaved + retained.length }

def Part.maybePersist (cfg : Cfg) (p : Part) : Except Err Part :=
  match p.segs.getLast? with
  | none => .error .segmentNotFound
  | some last =>
    if cfg.reqToSave ≤ p.unsaved ∨ last.isFull cfg then
      .ok { p with segs := updLast p.segs (fun _ => (last.persist cfg).1), unsaved := 0
                   cnt := { p.cnt with size := p.cnt.size + (last.persist cfg).2 } }
    else .ok p

theorem Part.append_eq (cfg : Cfg) (p : Part) (now : Nat) (msgs : List InMsg) :
    p.append cfg now msgs =
      match p.segs.getLast? with
      | none => .error .segmentNotFound
      | some _ =>
        let p1 := p.roll cfg now
        let r := number p1.dedup p1.next now msgs 0 []
        if r.2.isEmpty then .ok { p1 with dedup := r.1 }
        else (p1.accepted r.1 r.2).maybePersist cfg := by
  unfold Part.append
  cases h : p.segs.getLast? with
  | none => rfl
  | some last =>
    simp only [Part.roll, h]
    rfl

theorem Part.roll_spec {cfg : Cfg} {p : Part} (h : p.Inv cfg) (now : Nat) :
    (p.roll cfg now).Inv cfg ∧ abs (p.roll cfg now) = abs p ∧
      ∃ init last, (p.roll cfg now).segs = init ++ [last] ∧ last.closed = false := by
  obtain ⟨init, last, hs⟩ := h.exists_snoc
  have hl : p.segs.getLast? = some last := by simp [hs]
  unfold Part.roll
  simp only [hl]
  split
  · next hc =>
    obtain ⟨hclosedInit, hnext, hle⟩ := h.last_facts hs
    -- the new segment starts at `p.next`, at or above every other start: the sorted insert appends it
    have hsegs : (p.addSegment cfg (last.endOff + 1) now).segs = p.segs ++ [Seg.create cfg p.next now] := by
      simp only [Part.addSegment, h.endOff_last hs hc]
      apply insertSorted_snoc
      rw [hs]
      exact forall_mem_snoc.2 ⟨fun s hsm => by have := hle s hsm; simp; omega, by simp; omega⟩
    have hm : (p.addSegment cfg (last.endOff + 1) now).msgs = p.msgs := by
      rw [Part.msgs_eq, hsegs, Part.msgs_eq]; simp
    refine and_assoc.1 ⟨h.of_same_msgs rfl hm ?_ ?_ rfl ?_ ?_, p.segs, _, hsegs, rfl⟩
    · rw [hsegs]
      exact forall_mem_snoc.2 ⟨h.segs, Seg.create_inv cfg _ now h.segSize⟩
    · rw [hsegs, chain_snoc]
      refine ⟨Or.inr ⟨by simpa using h.chain, ?_⟩, by simp⟩
      rw [hs]
      exact forall_mem_snoc.2 ⟨hclosedInit, hc⟩
    · rw [hsegs]
      show p.cnt.size = _
      simp [h.cntSize]
    · rw [hsegs]
      show p.cnt.segs + 1 = _
      simp [h.cntSegs]
  · next hc =>
    exact ⟨h, rfl, init, last, hs, by simpa using hc⟩

/-! ## append, step 2: buffer the accepted messages -/

theorem Part.accepted_spec {cfg : Cfg} {p : Part} (h : p.Inv cfg) {init : List Seg} {last : Seg}
    (hs : p.segs = init ++ [last]) (hopen : last.closed = false) {now : Nat} {l : List InMsg}
    {d' : Option (List Nat)} {r : List Msg} (hn : NumberSpec p.dedup p.next now l 0 d' r) (hne : r ≠ [])
    (hsz : ∀ m ∈ l, 0 < m.size) (hts : ∀ m ∈ p.msgs, m.ts ≤ now) :
    (p.accepted d' r).Inv cfg ∧
      abs (p.accepted d' r) = { abs p with msgs := p.msgs ++ r, next := p.next + r.length, ids := d' } := by
  have hlast := (h.segs_snoc hs).2
  have hnext := (h.last_facts hs).2.1
  have hlen : 0 < r.length := List.length_pos_iff.2 hne
  have hcons : consecutiveFrom p.next r := by simpa using hn.cons
  have hsegs : (p.accepted d' r).segs = init ++ [last.appendBatch (sumSizes r) r] := by
    simp [Part.accepted, hs]
  have hm : (p.accepted d' r).msgs = p.msgs ++ r := by
    rw [Part.msgs_of_snoc hsegs, Part.msgs_of_snoc hs, Seg.appendBatch_msgs hne, List.append_assoc]
  have hnx : (p.accepted d' r).next = p.next + r.length := by
    simp only [Part.accepted, Part.next]; simp; omega
  have hlast' : (last.appendBatch (sumSizes r) r).Inv cfg :=
    Seg.appendBatch_inv hlast hopen hne (by rw [hnext]; exact hcons)
      (fun m hm' => hts m (by rw [Part.msgs_of_snoc hs]; exact List.mem_append_right _ hm')) hn.ts
  obtain ⟨h1, h2, h3, h4⟩ := h.replace_last hs hlast' Seg.appendBatch_start
    (by rw [Seg.appendBatch_msgs hne, List.length_append]) Seg.appendBatch_sizeBytes
  refine ⟨?_, by simp only [abs, hm, hnx]; rfl⟩
  exact
    { segs := hsegs ▸ h1
      chain := by rw [hsegs, hnx]; exact h2
      sizes := by rw [hm]; exact List.forall_mem_append.2 ⟨h.sizes, hn.sizes hsz⟩
      ts := by rw [hm]; exact tsSorted_append_now h.ts hts hn.ts
      cache := by
        intro c' hc'
        obtain ⟨c, hpc, rfl⟩ := Option.map_eq_some_iff.1 (show p.cache.map (· ++ r) = some c' from hc')
        obtain ⟨hsuf, hcc, hcl⟩ := h.cache c hpc
        rw [hm, hnx, List.length_append]
        refine ⟨hsuf.imp List.suffix_append_self_iff.2 List.suffix_append_self_iff.2, ?_,
          Nat.add_le_add_right hcl _⟩
        rw [Nat.add_sub_add_right, consecutiveFrom_append_iff, Nat.sub_add_cancel hcl]
        exact ⟨hcc, hcons⟩
      cacheCfg := Option.isSome_map.trans h.cacheCfg
      dedupCfg := hn.isSome.trans h.dedupCfg
      dedupIds := by rw [hm]; exact hn.dedup h.dedupIds
      cntMsgs := by
        rw [hm]
        show p.cnt.msgs + r.length = _
        simp [h.cntMsgs]
      cntSize := hsegs ▸ h3
      cntSegs := hsegs ▸ h4
      offsBound := by
        rw [hnx]
        have hlt := Nat.lt_add_of_pos_right (n := p.next) hlen
        exact ⟨OffsBelow.mono h.offsBound.1 hlt, OffsBelow.mono h.offsBound.2 hlt⟩
      curZero := by simp [Part.accepted]
      segSize := h.segSize }

/-! ## append, step 3: persist when the threshold is reached or the segment is full -/

theorem Part.maybePersist_spec {cfg : Cfg} {p : Part} (h : p.Inv cfg) :
    ∃ p', p.maybePersist cfg = .ok p' ∧ p'.Inv cfg ∧ abs p' = abs p := by
  obtain ⟨init, last, hs⟩ := h.exists_snoc
  unfold Part.maybePersist
  simp only [hs, List.getLast?_concat, updLast_snoc]
  split
  · refine ⟨_, rfl, ?_⟩
    exact h.persist_last hs (PersistRel.persist (h.segs_snoc hs).2) 0 _ rfl
  · exact ⟨p, rfl, h, rfl⟩

theorem append_refines {cfg : Cfg} {p : Part} {now : Nat} {msgs : List InMsg} (h : p.Inv cfg)
    (hsz : ∀ m ∈ msgs, 0 < m.size) (hts : ∀ m ∈ p.msgs, m.ts ≤ now) :
    ∃ p', p.append cfg now msgs = .ok p' ∧ p'.Inv cfg ∧ abs p' = (abs p).append now msgs := by
  obtain ⟨init0, last0, hs0⟩ := h.exists_snoc
  rw [Part.append_eq]
  simp only [hs0, List.getLast?_concat]
  obtain ⟨h1, habs1, init, last, hs, hopen⟩ := Part.roll_spec h now
  obtain ⟨r, hr⟩ : ∃ r, number (p.roll cfg now).dedup (p.roll cfg now).next now msgs 0 [] = r := ⟨_, rfl⟩
  have hn := number_spec (p.roll cfg now).next now msgs (p.roll cfg now).dedup 0
  -- the specification numbers the same messages: it sees the rolled-over state through `abs`
  have hspec : (abs p).append now msgs =
      { abs (p.roll cfg now) with
        msgs := (p.roll cfg now).msgs ++ r.2, next := (p.roll cfg now).next + r.2.length, ids := r.1 } := by
    rw [← habs1, ← hr]; rfl
  rw [hr] at hn ⊢
  by_cases he : r.2 = []
  · simp only [he, List.isEmpty_nil, if_true]
    refine ⟨_, rfl, { h1 with dedupCfg := hn.isSome.trans h1.dedupCfg, dedupIds := ?_ }, ?_⟩
    · -- nothing accepted: only the remembered ids may have changed
      have := hn.dedup h1.dedupIds
      rwa [he, List.append_nil] at this
    · rw [hspec, he]
      simp [abs, Part.msgs, Part.next]
  · have he' : r.2.isEmpty = false := by simpa using he
    simp only [he', Bool.false_eq_true, if_false]
    obtain ⟨h2, habs2⟩ := Part.accepted_spec h1 hs hopen hn he hsz
      (by rw [show (p.roll cfg now).msgs = p.msgs from congrArg SPart.msgs habs1]; exact hts)
    obtain ⟨p', hp', h3, habs3⟩ := Part.maybePersist_spec (cfg := cfg) h2
    exact ⟨p', hp', h3, by rw [habs3, habs2, hspec]⟩

end Iggy.Log

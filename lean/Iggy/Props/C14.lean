/-
C14 — retention removes only expired, closed segments and never rewinds offsets.
`Part.expire` = channels/commands/maintain_messages.rs handle_expired_segments → delete_segments for one
partition; `Part.getByOffset` includes the clamp to the earliest retained offset (fix 9561552).
-/
import Iggy.Log.RefineRun
namespace Iggy.Props.C14
open Iggy.Log

/-- A maintenance pass deletes a message only as part of a closed segment and only if the message is
older than the topic's expiry; what remains is a suffix of what was there (every message that was not
deleted is still there, in place) and the append position does not move. -/
theorem expire_deletes_only {cfg : Cfg} {p : Part} (hseg : 0 < cfg.segSize) (r : Reach cfg p) (now : Nat) :
    ∃ n, abs (p.expire cfg now) = (abs p).dropPrefix n ∧ (p.expire cfg now).next = p.next ∧
      ∀ m ∈ p.msgs.take n, (∃ e, p.expiry = some e ∧ m.ts + e ≤ now) ∧
        ∃ s ∈ p.segs, s.closed = true ∧ m ∈ s.msgs := by
  obtain ⟨n, _, h2, h3, h4⟩ := expire_refines (r.inv hseg) now
  exact ⟨n, h2, h3, h4⟩

/-- topics that never expire lose nothing -/
theorem never_expire_loses_nothing {cfg : Cfg} (p : Part) (now : Nat) (h : p.expiry = none) :
    p.expire cfg now = p := by
  unfold Part.expire; simp [h]

/-- the state after a pass is reachable again: new messages continue at the next offset, also after a
restart (C01 / C03 apply to every later operation) -/
theorem expire_reachable {cfg : Cfg} {p : Part} (r : Reach cfg p) (now : Nat) :
    Reach cfg (p.expire cfg now) := Reach.expire now r

/-- a poll that reaches below the earliest retained offset starts from the earliest message still
available: the answer is the slice starting at `max off firstStart` -/
theorem poll_below_earliest {cfg : Cfg} {p : Part} (hseg : 0 < cfg.segSize) (r : Reach cfg p) {off count : Nat}
    (hc : 0 < count) : p.getByOffset off count =
      p.msgs.filter (fun m => max off p.firstStart ≤ m.off ∧ m.off < max off p.firstStart + count) :=
  reach_poll_exact hseg r hc

/-- every message that was not deleted is still served exactly as before: a poll entirely above the
new earliest offset gives the same answer before and after the pass -/
theorem survivors_served_as_before {cfg : Cfg} {p : Part} (hseg : 0 < cfg.segSize) (r : Reach cfg p) (now : Nat)
    {off count : Nat} (hc : 0 < count) (hoff : (p.expire cfg now).firstStart ≤ off)
    (hoff' : p.firstStart ≤ off) :
    (p.expire cfg now).getByOffset off count = p.getByOffset off count := by
  have h := r.inv hseg
  obtain ⟨n, h', h2, h3, -⟩ := expire_refines h now
  rw [getByOffset_refines h' hc, getByOffset_refines h hc, h2]
  refine SPart.dropPrefix_pollOffset (p := abs p) h.msgs_consecutive n ?_ count
  -- the new earliest offset is the old one plus the number of dropped messages (so `hoff'` is not needed)
  have h1 := h'.tiled'.2
  have := h.tiled'.2
  rw [show (p.expire cfg now).msgs = p.msgs.drop n from congrArg SPart.msgs h2, h3, List.length_drop] at h1
  show p.firstStart + min n p.msgs.length ≤ off
  omega

/-! non-vacuity: the regression state `rx5` (four appends, then size-based retention) -/
example : (rx5.getByOffset 0 1).map (·.off) = [5] := rx5_poll.1

end Iggy.Props.C14

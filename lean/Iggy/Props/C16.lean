/-
C16 — reported sizes and counts always equal what is actually stored.
The counters are threaded through the model exactly where the code touches the shared atomics
(append_batch, persist_messages, load_from_disk, Segment::delete); topic / stream / server figures are
sums over the partitions (Iggy/Sys/Model.lean: Topic.size, Stream.size, …).
-/
import Iggy.Log.RefineRun
import Iggy.Sys.Model
namespace Iggy.Props.C16
open Iggy.Log Iggy.Sys

/-- The message count reported for a partition equals the number of messages it retains, the segment
count the number of segments, and the size the sum of the segments' sizes — in every reachable state. -/
theorem count_exact {cfg : Cfg} {p : Part} (hseg : 0 < cfg.segSize) (r : Reach cfg p) :
    p.cnt.msgs = p.msgs.length ∧ p.cnt.segs = p.segs.length ∧
      p.cnt.size = (p.segs.map (·.sizeBytes)).sum := reach_counts hseg r

/-- Byte exactness: the reported size is the bytes of all log files (24-byte batch headers included)
plus the bytes of the messages still buffered. -/
theorem size_exact {cfg : Cfg} {p : Part} (hseg : 0 < cfg.segSize) (r : Reach cfg p) :
    p.cnt.size = (p.segs.map (fun s => logBytes s.log)).sum + sumSizes p.buffered :=
  reach_size_exact hseg r

/-- A restart reports the same message and segment counts as before it, and the size of the state
that the shutdown saved. -/
theorem restart_same_figures {cfg : Cfg} {p : Part} (hseg : 0 < cfg.segSize) (r : Reach cfg p) {now : Nat}
    (hnow : ∀ m ∈ p.msgs, m.ts ≤ now) (n : Nat) :
    (p.restart cfg now n).cnt.msgs = p.cnt.msgs ∧ (p.restart cfg now n).cnt.segs = p.cnt.segs ∧
      (p.restart cfg now n).cnt.size = (p.save cfg).cnt.size := by
  have h := reach_restart_same hseg r hnow n
  exact ⟨h.2.2.2.2.2.1, h.2.2.2.2.2.2.2, h.2.2.2.2.2.2.1⟩

/-- A topic's count and size are the sums over its partitions, a stream's the sums over its topics
(by definition in the model; the correspondence checks the real shared atomics against these sums). -/
theorem hierarchy_sums (t : Topic) (s : Stream) :
    t.msgs = (t.parts.map (fun e => e.2.cnt.msgs)).sum ∧ t.size = (t.parts.map (fun e => e.2.cnt.size)).sum ∧
    s.msgs = (s.topics.map (fun e => e.2.msgs)).sum ∧ s.size = (s.topics.map (fun e => e.2.size)).sum :=
  ⟨rfl, rfl, rfl, rfl⟩

theorem le_sum_of_mem {l : List Nat} {a : Nat} (h : a ∈ l) : a ≤ l.sum := by
  obtain ⟨s, t, rfl⟩ := List.append_of_mem h
  rw [List.sum_append_nat, List.sum_cons]; omega

/-- counters never underflow when segments are deleted: a deleted segment's figures are part of the
partition's (purge, retention, partition / topic / stream deletion all go through `Counters.subSeg`) -/
theorem delete_never_underflows {cfg : Cfg} {p : Part} (hseg : 0 < cfg.segSize) (r : Reach cfg p) {s : Seg}
    (hs : s ∈ p.segs) : s.sizeBytes ≤ p.cnt.size ∧ s.msgCount ≤ p.cnt.msgs := by
  have h := r.inv hseg
  constructor
  · rw [h.cntSize]; exact le_sum_of_mem (List.mem_map_of_mem hs)
  · rw [h.cntMsgs, (reach_seg_counts hseg r hs).2.1, Part.msgs, List.length_flatten]
    exact le_sum_of_mem (List.mem_map_of_mem (List.mem_map_of_mem hs))

/-! non-vacuity -/
example : ((Part.create rxCfg none 0).runOps rxCfg rxOps).cnt.msgs = 3 := by decide

end Iggy.Props.C16

import Iggy.Props.C09
#print axioms Iggy.Props.C09.lookup_global
#print axioms Iggy.Props.C09.lookup_stream
#print axioms Iggy.Props.C09.lookup_poll_all
#print axioms Iggy.Props.C09.lookup_send_all
#print axioms Iggy.Props.C09.lookup_poll_stream
#print axioms Iggy.Props.C09.lookup_send_stream
#print axioms Iggy.Props.C09.stream_map_last_wins
#print axioms Iggy.Props.C09.init_lookup
#print axioms Iggy.Props.C09.init_other
#print axioms Iggy.Props.C09.empty_free
#print axioms Iggy.Props.C09.delete_free
#print axioms Iggy.Props.C09.delete_other
#print axioms Iggy.Props.C09.update_lookup
#print axioms Iggy.Props.C09.update_other
#print axioms Iggy.Props.C09.sound
#print axioms Iggy.Props.C09.sound_append_messages
#print axioms Iggy.Props.C09.sound_change_password
#print axioms Iggy.Props.C09.sound_create_consumer_group
#print axioms Iggy.Props.C09.sound_create_partitions
#print axioms Iggy.Props.C09.sound_create_stream
#print axioms Iggy.Props.C09.sound_create_topic
#print axioms Iggy.Props.C09.sound_create_user
#print axioms Iggy.Props.C09.sound_delete_consumer_group
#print axioms Iggy.Props.C09.sound_delete_consumer_offset
#print axioms Iggy.Props.C09.sound_delete_partitions
#print axioms Iggy.Props.C09.sound_delete_stream
#print axioms Iggy.Props.C09.sound_delete_topic
#print axioms Iggy.Props.C09.sound_delete_user
#print axioms Iggy.Props.C09.sound_get_client
#print axioms Iggy.Props.C09.sound_get_clients
#print axioms Iggy.Props.C09.sound_get_consumer_group
#print axioms Iggy.Props.C09.sound_get_consumer_groups
#print axioms Iggy.Props.C09.sound_get_consumer_offset
#print axioms Iggy.Props.C09.sound_get_stats
#print axioms Iggy.Props.C09.sound_get_stream
#print axioms Iggy.Props.C09.sound_get_streams
#print axioms Iggy.Props.C09.sound_get_topic
#print axioms Iggy.Props.C09.sound_get_topics
#print axioms Iggy.Props.C09.sound_get_user
#print axioms Iggy.Props.C09.sound_get_users
#print axioms Iggy.Props.C09.sound_join_consumer_group
#print axioms Iggy.Props.C09.sound_leave_consumer_group
#print axioms Iggy.Props.C09.sound_poll_messages
#print axioms Iggy.Props.C09.sound_purge_stream
#print axioms Iggy.Props.C09.sound_purge_topic
#print axioms Iggy.Props.C09.sound_store_consumer_offset
#print axioms Iggy.Props.C09.sound_update_permissions
#print axioms Iggy.Props.C09.sound_update_stream
#print axioms Iggy.Props.C09.sound_update_topic
#print axioms Iggy.Props.C09.sound_update_user
#print axioms Iggy.Props.C09.needs_total
#print axioms Iggy.Props.C09.public_in_table
#print axioms Iggy.Props.C09.no_record_denied
#print axioms Iggy.Props.C09.no_panic
#print axioms Iggy.Props.C09.no_panic_append_messages
#print axioms Iggy.Props.C09.no_panic_change_password
#print axioms Iggy.Props.C09.no_panic_create_consumer_group
#print axioms Iggy.Props.C09.no_panic_create_partitions
#print axioms Iggy.Props.C09.no_panic_create_stream
#print axioms Iggy.Props.C09.no_panic_create_topic
#print axioms Iggy.Props.C09.no_panic_create_user
#print axioms Iggy.Props.C09.no_panic_delete_consumer_group
#print axioms Iggy.Props.C09.no_panic_delete_consumer_offset
#print axioms Iggy.Props.C09.no_panic_delete_partitions
#print axioms Iggy.Props.C09.no_panic_delete_stream
#print axioms Iggy.Props.C09.no_panic_delete_topic
#print axioms Iggy.Props.C09.no_panic_delete_user
#print axioms Iggy.Props.C09.no_panic_get_client
#print axioms Iggy.Props.C09.no_panic_get_clients
#print axioms Iggy.Props.C09.no_panic_get_consumer_group
#print axioms Iggy.Props.C09.no_panic_get_consumer_groups
#print axioms Iggy.Props.C09.no_panic_get_consumer_offset
#print axioms Iggy.Props.C09.no_panic_get_server_info
#print axioms Iggy.Props.C09.no_panic_get_stats
#print axioms Iggy.Props.C09.no_panic_get_stream
#print axioms Iggy.Props.C09.no_panic_get_streams
#print axioms Iggy.Props.C09.no_panic_get_topic
#print axioms Iggy.Props.C09.no_panic_get_topics
#print axioms Iggy.Props.C09.no_panic_get_user
#print axioms Iggy.Props.C09.no_panic_get_users
#print axioms Iggy.Props.C09.no_panic_join_consumer_group
#print axioms Iggy.Props.C09.no_panic_leave_consumer_group
#print axioms Iggy.Props.C09.no_panic_manage_stream
#print axioms Iggy.Props.C09.no_panic_manage_topic
#print axioms Iggy.Props.C09.no_panic_manager_users
#print axioms Iggy.Props.C09.no_panic_poll_messages
#print axioms Iggy.Props.C09.no_panic_purge_stream
#print axioms Iggy.Props.C09.no_panic_purge_topic
#print axioms Iggy.Props.C09.no_panic_read_users
#print axioms Iggy.Props.C09.no_panic_store_consumer_offset
#print axioms Iggy.Props.C09.no_panic_update_permissions
#print axioms Iggy.Props.C09.no_panic_update_stream
#print axioms Iggy.Props.C09.no_panic_update_topic
#print axioms Iggy.Props.C09.no_panic_update_user
#print axioms Iggy.Props.C09.reads_only_view
#print axioms Iggy.Props.C09.rule_local_topic
#print axioms Iggy.Props.C09.rule_local
#print axioms Iggy.Props.C09.Local
#print axioms Iggy.Props.C09.other_stream_irrelevant
#print axioms Iggy.Props.C09.other_topic_irrelevant
#print axioms Iggy.Props.C09.only_other_streams
#print axioms Iggy.Props.C09.monotone
#print axioms Iggy.Props.C09.le_refl
#print axioms Iggy.Props.C09.monotone_from_none
#print axioms Iggy.Props.C09.root_all
#print axioms Iggy.Props.C09.update_applies_next
#print axioms Iggy.Props.C09.init_applies_next
#print axioms Iggy.Props.C09.delete_applies_next
#print axioms Iggy.Props.C09.deleted_user_denied
#print axioms Iggy.Props.C09.update_other_user_unaffected
#print axioms Iggy.Props.C09.delete_other_user_unaffected
#print axioms Iggy.Props.C09.sound_after_update
#print axioms Iggy.Props.C09.no_panic_after_update

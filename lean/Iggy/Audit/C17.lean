import Iggy.Props.C17
#print axioms Iggy.Props.C17.key_in_range
#print axioms Iggy.Props.C17.key_deterministic
#print axioms Iggy.Props.C17.balanced_in_range
#print axioms Iggy.Props.C17.pos_lt
#print axioms Iggy.Props.C17.nextPid_eq
#print axioms Iggy.Props.C17.pos_add_two
#print axioms Iggy.Props.C17.balanced_rotation
#print axioms Iggy.Props.C17.add_mod_ne
#print axioms Iggy.Props.C17.balanced_window_distinct
#print axioms Iggy.Props.C17.by_id_missing_stores_nothing
#print axioms Iggy.Props.C17.one_send_one_partition

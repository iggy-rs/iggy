/-
Journalled commands below a topic: update / delete / purge topic, create / delete partitions,
create / delete consumer group.
-/
import Iggy.Sys.Catalog.Admin
namespace Iggy.Sys
open Iggy.Log

/-- view-level: a new partition set; every group records its size (`Topic.reassignGroups`) -/
def TV.setParts (tv : TV) (ps : List Nat) : TV :=
  { tv with parts := ps, groups := mapE (fun _ gv => { gv with nparts := ps.length }) tv.groups }

theorem TV.WF.setParts {tv : TV} (h : tv.WF) {ps : List Nat} (hps : ps = List.range' 1 ps.length) :
    (tv.setParts ps).WF := by
  refine ⟨hps, ⟨?_, ?_⟩⟩
  · exact (scope_mapE (idf := GV.id) (nm := GV.name) (idf' := GV.id) (nm' := GV.name)
      (fun _ (gv : GV) => ({ gv with nparts := ps.length } : GV)) (fun _ _ => rfl) (fun _ _ => rfl)).2 h.2.toScope
  · intro e he
    obtain ⟨a, _, rfl⟩ := mem_mapE (f := fun _ (gv : GV) => ({ gv with nparts := ps.length } : GV)).1 he
    rfl

theorem Topic.view_reassign (t : Topic) (ps : List (Nat × Part)) :
    (Topic.reassignGroups { t with parts := ps }).view = t.view.setParts (ps.map (·.1)) := by
  simp only [Topic.reassignGroups, Topic.view, TV.setParts, mapE, List.map_map, List.length_map]
  rfl

theorem RTopic.view_setNparts (tr : RTopic) (m : Nat) :
    ({ tr with nparts := m } : RTopic).view = tr.view.setParts (List.range' 1 m) := by
  simp only [RTopic.view, TV.setParts, mapE, List.map_map, List.length_range']
  rfl

theorem spec_updateTopic {y : Sys} (h : y.CatWF) (si ti : Ident) (name : String) (e : ExpiryArg) (m : MaxArg)
    (repl : Option Nat) : Spec y (step y (.updateTopic si ti name e m repl)) := by
  simp only [step]
  refine .withTopic h fun s t hs hsi ht hti hT => ?_
  split
  · exact .failed rfl rfl
  · next maxSize hmax =>
    refine ite_elim (fun _ => .failed rfl rfl) fun hname => ?_
    refine .logged _ rfl (Journaled.topic h hs hsi ht hti
      (f := fun t => { t with name := name, expiry := resolveExpiry y.scfg e, maxSize := maxSize, repl := repl })
      rfl rfl rfl (fun r => rfl) rfl (any_other_false (nm := Topic.name) hname) ?_ ?_)
    · exact hT.congr (by simp only [Topic.view, List.map_map, Function.comp_def]) rfl
    · intro tr htr
      -- both sides overwrite the same four settings of the one view
      show ({ tr.view with name := name, expiry := resolveExpiry y.scfg e, maxSize := maxSize,
                           repl := repl.getD 1 } : TV) = _
      rw [htr]
      simp only [Topic.view, List.map_map, Function.comp_def]

theorem spec_deleteTopic {y : Sys} (h : y.CatWF) (si ti : Ident) : Spec y (step y (.deleteTopic si ti)) := by
  simp only [step]
  refine .withTopic h fun s t hs hsi ht hti _ => ?_
  have hS := h.stream hs
  let s' : Stream := { s with topics := erase s.topics t.id, topicCursor := if t.id < s.topicCursor then t.id else s.topicCursor }
  have hview : s'.view = s.view.delTopic t.id := by
    simp only [s', Stream.view, SV.delTopic, mapE_erase]
  refine .logged (.deleteTopic si ti) rfl (Journaled.stream h hs hsi
    (f := fun s => (s.findTopicId ti).map (fun tid => { s with topics := erase s.topics tid }))
    (fun r => rfl) (s' := s') rfl ?_ ?_ ?_ rfl rfl)
  · exact h.scope.fresh_of_same_name hs rfl
  · rw [hview]; exact hS.delTopic _
  · intro sr hsr
    have h1 : sr.findTopicId ti = some t.id := by
      rw [RStream.findTopicId_eq, hsr]
      exact hS.toScope.findK_of (mem_view_topics ht) hti
    refine ⟨_, by rw [h1]; rfl, ?_⟩
    rw [hview, ← hsr]
    simp only [RStream.view, SV.delTopic, mapE_erase]

theorem spec_purgeTopic {y : Sys} (h : y.CatWF) (si ti : Ident) : Spec y (step y (.purgeTopic si ti)) := by
  simp only [step]
  refine .withTopic h fun s t hs hsi ht hti hT => ?_
  have hv : (mapParts t (fun p => p.purge y.cfg y.now)).view = t.view := Topic.view_mapParts _ _
  refine .logged _ rfl (Journaled.topic h hs hsi ht hti (f := id) rfl rfl rfl (fun r => rfl) rfl ?_ ?_ ?_)
  · exact (h.stream hs).scope.fresh_of_same_name ht rfl
  · rw [hv]; exact hT
  · intro tr htr; rw [hv]; exact htr

theorem Journaled.setParts {y : Sys} (h : y.CatWF) {si ti : Ident} {s : Stream} {t : Topic}
    (hs : (s.id, s) ∈ y.streams) (hsi : si.Matches s.id s.name) (ht : (t.id, t) ∈ s.topics)
    (hti : ti.Matches t.id t.name) {e : Entry} {g : Nat → Nat} {ps : List (Nat × Part)}
    (he : ∀ r, applyEntry r e = r.withStream si (fun s => s.withTopic ti (fun t => { t with nparts := g t.nparts })))
    (hps : ps.map (·.1) = List.range' 1 (g t.parts.length)) :
    Journaled y ((y.putTopic s (Topic.reassignGroups { t with parts := ps })).journalAdd e) e := by
  have hT := (h.stream hs).topic ht
  have hv : (Topic.reassignGroups { t with parts := ps }).view = t.view.setParts (List.range' 1 (g t.parts.length)) := by
    rw [Topic.view_reassign, hps]
  refine Journaled.topic h hs hsi ht hti rfl rfl rfl he rfl ((h.stream hs).scope.fresh_of_same_name ht rfl) ?_ ?_
  · rw [hv]; exact hT.setParts (by rw [List.length_range'])
  · intro tr htr
    rw [hv, RTopic.view_setNparts, htr, nparts_of_view htr]

theorem spec_createParts {y : Sys} (h : y.CatWF) (si ti : Ident) (n : Nat) :
    Spec y (step y (.createParts si ti n)) := by
  simp only [step]
  refine .withTopic h fun s t hs hsi ht hti hT => ?_
  refine .logged _ rfl (Journaled.setParts h hs hsi ht hti (g := (· + n)) (fun r => rfl) ?_)
  rw [List.map_append, mkParts_keys, hT.part_keys, Nat.add_comm t.parts.length 1,
    ← List.range'_append_1]

theorem spec_deleteParts {y : Sys} (h : y.CatWF) (si ti : Ident) (n : Nat) :
    Spec y (step y (.deleteParts si ti n)) := by
  simp only [step]
  refine .withTopic h fun s t hs hsi ht hti hT => ?_
  refine .logged _ rfl (Journaled.setParts h hs hsi ht hti (g := (· - n)) (fun r => rfl) ?_)
  rw [List.map_take, hT.part_keys, List.take_range'_of_length_ge (Nat.sub_le _ _)]
  -- `k - min n k = k - n`, by cases on `n ≤ k`
  rcases Nat.le_total n t.parts.length with hn | hn
  · rw [Nat.min_eq_left hn]
  · rw [Nat.min_eq_right hn, Nat.sub_self, Nat.sub_eq_zero_of_le hn]

theorem spec_createGroup_core {y : Sys} (h : y.CatWF) {si ti : Ident} {s : Stream} {t : Topic}
    (hs : (s.id, s) ∈ y.streams) (hsi : si.Matches s.id s.name) (ht : (t.id, t) ∈ s.topics)
    (hti : ti.Matches t.id t.name) {name : String}
    (hname : ¬ (t.groups.any fun ge => decide (ge.2.name = name)) = true) (gid cursor : Nat) :
    Spec y (if (find? t.groups gid).isSome = true then
        (y.putTopic s { t with groupCursor := cursor }, Out.err "consumer_group_id_already_exists", [])
      else
        ((y.putTopic s (Topic.putGroup { t with groupCursor := cursor }
            { id := gid, name := name, nparts := t.parts.length, members := [] })).journalAdd
          (.createGroup si ti gid name), .okId gid, [])) := by
  refine ite_elim (fun _ => .failed (viewY_putTopic_same h hs ht (t' := { t with groupCursor := cursor }) rfl rfl) rfl)
    fun _ => ?_
  · have hT := (h.stream hs).topic ht
    have hview : (Topic.putGroup { t with groupCursor := cursor }
        { id := gid, name := name, nparts := t.parts.length, members := [] }).view =
        t.view.setGroup gid ⟨gid, name, t.parts.length⟩ := Topic.view_putGroup _ _
    refine .logged _ rfl (Journaled.topic h hs hsi ht hti
      (f := fun t => { t with groups := insertAsc t.groups gid name }) rfl rfl rfl (fun r => rfl) rfl ?_ ?_ ?_)
    · exact (h.stream hs).scope.fresh_of_same_name ht rfl
    · rw [hview]
      refine hT.setGroup rfl ?_ (by simp [Topic.view])
      intro x hx hn
      obtain ⟨a, ha, rfl⟩ := mem_mapE (f := fun _ (g : Group) => g.view).1 hx
      exact absurd hn (any_name_false (nm := Group.name) hname a ha)
    · intro tr htr
      rw [hview, ← htr, ← nparts_of_view htr]
      simp only [RTopic.view, TV.setGroup, mapE_insertAsc]

theorem spec_createGroup {y : Sys} (h : y.CatWF) (si ti : Ident) (id : Option Nat) (name : String) :
    Spec y (step y (.createGroup si ti id name)) := by
  simp only [step]
  refine .withTopic h fun s t hs hsi ht hti _ => ?_
  exact ite_elim (fun _ => .failed rfl rfl) fun hname => spec_createGroup_core h hs hsi ht hti hname _ _

theorem spec_deleteGroup {y : Sys} (h : y.CatWF) (si ti gi : Ident) : Spec y (step y (.deleteGroup si ti gi)) := by
  simp only [step]
  refine .withTopic h fun s t hs hsi ht hti hT => ?_
  split
  · exact .failed rfl rfl
  · next g hg =>
    obtain ⟨hgm, hgi⟩ := hT.findGroup.1 hg
    refine .logged _ rfl (Journaled.topic h hs hsi ht hti
      (f := fun t => match t.findGroupId gi with
        | none => t
        | some gid => { t with groups := erase t.groups gid }) rfl rfl rfl (fun r => rfl) rfl
      ((h.stream hs).scope.fresh_of_same_name ht rfl) ?_ ?_)
    · refine (hT.delGroup g.id).congr ?_ ?_
      · simp only [Topic.view, TV.delGroup, List.map_map, Function.comp_def]
      · simp only [Topic.view, TV.delGroup, mapE_erase]
    · intro tr htr
      have h1 : tr.findGroupId gi = some g.id := by
        rw [RTopic.findGroupId_eq, htr]
        exact hT.2.toScope.findK_of (mem_view_groups hgm) hgi
      simp only [h1]
      show ({ tr.view with groups := mapE _ (erase tr.groups g.id) } : TV) = _
      rw [mapE_erase, show mapE _ tr.groups = tr.view.groups from rfl, htr]
      simp only [Topic.view, mapE_erase, List.map_map, Function.comp_def]

end Iggy.Sys

/-
What the create results of C06 rest on: the id allocator always finds a free id (`allocId_fresh_assoc`,
`pickId_fresh`), and the if-chain the three creates share (`create_okId`; `step_createGroup` shows
`createGroup` in that shape, as `step_createStream` / `step_createTopic` of `Admin.lean` do for the other two).
-/
import Iggy.Sys.Catalog.Admin
namespace Iggy.Sys
open Iggy.Log

theorem allocId_taken {taken : Nat → Bool} : ∀ fuel c, taken (allocId taken c fuel).1 = true →
    ∀ i, c ≤ i → i ≤ c + fuel → taken i = true := by
  intro fuel
  induction fuel with
  | zero => intro c h i h1 h2; rwa [Nat.le_antisymm h2 h1]
  | succ fuel ih =>
    intro c h i h1 h2
    rw [allocId] at h
    by_cases hc : taken c = true
    · rw [if_pos hc] at h
      by_cases hi : i = c
      · rwa [hi]
      · exact ih _ h i (Nat.lt_of_le_of_ne h1 (Ne.symm hi)) (by rwa [Nat.add_assoc, Nat.add_comm 1])
    · rw [if_neg hc] at h; exact absurd h hc

theorem allocId_fresh_assoc {α : Type} (l : List (Nat × α)) (c : Nat) :
    find? l (allocId (fun i => (find? l i).isSome) c (l.length + 1)).1 = none := by
  apply Classical.byContradiction
  intro h
  -- otherwise the `l.length + 2` ids from `c` on would all be keys of `l`
  have hsub : List.range' c (l.length + 2) ⊆ l.map (·.1) := fun i hi => by
    have hi := List.mem_range'_1.1 hi
    have := allocId_taken (taken := fun i => (find? l i).isSome) (l.length + 1) c
      (Option.isSome_iff_ne_none.2 h) i hi.1 (Nat.le_of_lt_succ hi.2)
    obtain ⟨e, he, rfl⟩ := find?_isSome.1 this
    exact List.mem_map_of_mem he
  have := List.Nodup.length_le_of_subset List.nodup_range' hsub
  rw [List.length_range', List.length_map] at this
  exact Nat.not_succ_le_self _ (Nat.le_trans (Nat.le_succ _) this)

theorem pickId_fresh {α : Type} {l : List (Nat × α)} {id : Option Nat} (hid : ∀ i, id = some i → find? l i = none)
    (c : Nat) : find? l (pickId l c id).1 = none := by
  cases id with
  | some i => exact hid i rfl
  | none => exact allocId_fresh_assoc l c

theorem pickId_explicit {α : Type} (l : List (Nat × α)) (c : Nat) {id : Option Nat} {i : Nat} (h : id = some i) :
    (pickId l c id).1 = i := by
  subst h; rfl

theorem not_any_of_fresh {α : Type} {l : List (Nat × α)} {nm : α → String} {name : String}
    (h : ∀ e ∈ l, nm e.2 ≠ name) : ¬ (l.any fun e => decide (nm e.2 = name)) = true := by
  intro hc
  obtain ⟨e, he, hn⟩ := List.any_eq_true.1 hc
  exact h e he (by simpa using hn)

theorem not_any_other {α : Type} {l : List (Nat × α)} {nm : α → String} {name : String} {k : Nat}
    (h : ∀ e ∈ l, nm e.2 = name → e.1 = k) : ¬ (l.any fun e => decide (nm e.2 = name ∧ e.1 ≠ k)) = true := by
  intro hc
  obtain ⟨e, he, hn⟩ := List.any_eq_true.1 hc
  simp only [decide_eq_true_eq] at hn
  exact hn.2 (h e he hn.1)

/-- the if-chain of the three creates: name taken, id taken, create -/
theorem create_okId {c₁ c₂ : Prop} [Decidable c₁] [Decidable c₂] {y₁ y₂ y₃ : Sys} {e₁ e₂ : String} {n' n : Nat}
    {effs : List Effect}
    (h : (if c₁ then (y₁, Out.err e₁, []) else if c₂ then (y₂, .err e₂, []) else (y₃, .okId n', effs)).2.1 = .okId n) :
    ¬ c₁ ∧ ¬ c₂ ∧ n' = n := by
  by_cases h1 : c₁
  · rw [if_pos h1] at h; cases h
  · by_cases h2 : c₂
    · rw [if_neg h1, if_pos h2] at h; cases h
    · rw [if_neg h1, if_neg h2] at h; exact ⟨h1, h2, Out.okId.inj h⟩

theorem step_createGroup {y : Sys} {si ti : Ident} {s : Stream} {t : Topic} {p : Nat × Nat}
    (hs : y.findStream si = .ok s) (ht : s.findTopic ti = .ok t) (id : Option Nat)
    (hp : pickId t.groups t.groupCursor id = p) (name : String) :
    ∃ e₁ e₂, step y (.createGroup si ti id name) =
      if t.groups.any (fun ge => ge.2.name = name) then (y, .err e₁, []) else
      if (find? t.groups p.1).isSome then (y.putTopic s { t with groupCursor := p.2 }, .err e₂, []) else
      ((y.putTopic s (Topic.putGroup { t with groupCursor := p.2 } ⟨p.1, name, t.parts.length, []⟩)).journalAdd
        (.createGroup si ti p.1 name), .okId p.1, []) := by
  subst hp; simp only [step, Sys.withTopic, hs, ht]; exact ⟨_, _, rfl⟩

end Iggy.Sys

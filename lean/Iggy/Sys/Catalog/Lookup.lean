/-
Resolution of identifiers (numeric id or name) in a scope: the three `find…` functions of the runtime
model and the three `find…Id` functions of the journal replay are instances of two generic lookups,
and under `Scope` both are characterised by membership.  Then what structural well-formedness
(`Sys.CatWF`) says of the runtime tables themselves, successful resolution in a well-formed catalogue,
and the keyed reads `topicOf` / `partOf` / `groupOf`.
-/
import Iggy.Sys.Catalog.View
namespace Iggy.Sys

def Ident.Matches (i : Ident) (k : Nat) (name : String) : Prop :=
  match i with
  | .num n => k = n
  | .name x => name = x

section
variable {α β : Type}

def findI (nm : α → String) (l : List (Nat × α)) : Ident → Option α
  | .num n => find? l n
  | .name x => (l.find? (fun e => nm e.2 = x)).map (·.2)

/-- generic replay lookup: a numeric identifier is taken at face value -/
def findK (nm : α → String) (l : List (Nat × α)) : Ident → Option Nat
  | .num n => some n
  | .name x => (l.find? (fun e => nm e.2 = x)).map (·.1)

variable {idf : α → Nat} {nm : α → String} {l : List (Nat × α)}

theorem Scope.find_name_iff (h : Scope idf nm l) {x : String} {e : Nat × α} :
    l.find? (fun e => nm e.2 = x) = some e ↔ e ∈ l ∧ nm e.2 = x := by
  constructor
  · intro hf
    have := List.find?_some hf
    exact ⟨List.mem_of_find?_eq_some hf, by simpa using this⟩
  · rintro ⟨he, rfl⟩
    exact h.find_name he

theorem Scope.findI_iff (h : Scope idf nm l) {i : Ident} {a : α} :
    findI nm l i = some a ↔ (idf a, a) ∈ l ∧ i.Matches (idf a) (nm a) := by
  cases i with
  | num n =>
    simp only [findI, Ident.Matches]
    constructor
    · intro hf
      have hk := h.key_of_find hf
      rw [hk]; exact ⟨mem_of_find? hf, rfl⟩
    · rintro ⟨hm, hn⟩
      rw [← hn]; exact find?_of_mem h.asc hm
  | name x =>
    simp only [findI, Ident.Matches]
    constructor
    · intro hf
      obtain ⟨e, hf', rfl⟩ := Option.map_eq_some_iff.1 hf
      have := h.find_name_iff.1 hf'
      rwa [h.key e this.1]
    · rintro ⟨hm, hn⟩
      rw [h.find_name_iff.2 ⟨hm, hn⟩]; rfl

theorem Scope.findK_of (h : Scope idf nm l) {i : Ident} {k : Nat} {a : α} (hm : (k, a) ∈ l)
    (hi : i.Matches k (nm a)) : findK nm l i = some k := by
  cases i with
  | num n => simp only [findK, Ident.Matches] at hi ⊢; rw [hi]
  | name x =>
    simp only [findK, Ident.Matches] at hi ⊢
    rw [h.find_name_iff.2 ⟨hm, hi⟩]; rfl

theorem findK_mapE {nm' : β → String} (f : Nat → α → β) (hnm : ∀ k a, nm' (f k a) = nm a) (i : Ident) :
    findK nm' (mapE f l) i = findK nm l i := by
  cases i with
  | num n => rfl
  | name x =>
    simp only [findK, mapE, List.find?_map, Option.map_map]
    congr 1
    congr 1
    funext e
    simp [hnm]

theorem findI_mapE {nm' : β → String} (f : α → β) (hnm : ∀ a, nm' (f a) = nm a) (i : Ident) :
    findI nm' (mapE (fun _ => f) l) i = (findI nm l i).map f := by
  cases i with
  | num n => simp only [findI, find?_mapE]
  | name x =>
    simp only [findI, mapE, List.find?_map, Option.map_map]
    have : ((fun e : Nat × β => decide (nm' e.2 = x)) ∘ fun e : Nat × α => (e.1, f e.2)) =
        fun e : Nat × α => decide (nm e.2 = x) := by
      funext e; simp [hnm]
    rw [this]
    rfl

end

theorem Sys.findStream_ok {y : Sys} {si : Ident} {s : Stream} :
    y.findStream si = .ok s ↔ findI Stream.name y.streams si = some s := by
  cases si with
  | num n =>
    simp only [Sys.findStream, findI]
    cases find? y.streams n <;> simp
  | name x =>
    simp only [Sys.findStream, findI]
    cases y.streams.find? (fun e => e.2.name = x) <;> simp

theorem Stream.findTopic_ok {s : Stream} {ti : Ident} {t : Topic} :
    s.findTopic ti = .ok t ↔ findI Topic.name s.topics ti = some t := by
  cases ti with
  | num n =>
    simp only [Stream.findTopic, findI]
    cases find? s.topics n <;> simp
  | name x =>
    simp only [Stream.findTopic, findI]
    cases s.topics.find? (fun e => e.2.name = x) <;> simp

theorem Topic.findGroup_ok {t : Topic} {gi : Ident} {g : Group} :
    t.findGroup gi = .ok g ↔ findI Group.name t.groups gi = some g := by
  cases gi with
  | num n =>
    simp only [Topic.findGroup, findI]
    cases find? t.groups n <;> simp
  | name x =>
    simp only [Topic.findGroup, findI]
    cases t.groups.find? (fun e => e.2.name = x) <;> simp

theorem RCat.findStreamId_eq (r : RCat) (si : Ident) : r.findStreamId si = findK SV.name (viewR r) si := by
  rw [viewR, findK_mapE (nm := RStream.name) (nm' := SV.name) (fun _ (s : RStream) => s.view) (fun _ _ => rfl)]
  cases si <;> rfl

theorem RStream.findTopicId_eq (s : RStream) (ti : Ident) : s.findTopicId ti = findK TV.name s.view.topics ti := by
  show _ = findK TV.name (mapE (fun _ (t : RTopic) => t.view) s.topics) ti
  rw [findK_mapE (nm := RTopic.name) (nm' := TV.name) (fun _ (t : RTopic) => t.view) (fun _ _ => rfl)]
  cases ti <;> rfl

theorem RTopic.findGroupId_eq (t : RTopic) (gi : Ident) : t.findGroupId gi = findK GV.name t.view.groups gi := by
  show _ = findK GV.name (mapE (fun k nm => ({ id := k, name := nm, nparts := t.nparts } : GV)) t.groups) gi
  rw [findK_mapE (nm := fun (x : String) => x) (nm' := GV.name) (fun k nm => ({ id := k, name := nm, nparts := t.nparts } : GV)) (fun _ _ => rfl)]
  cases gi <;> rfl

theorem Sys.CatWF.scope {y : Sys} (h : y.CatWF) : Scope Stream.id Stream.name y.streams :=
  (scope_mapE (idf' := SV.id) (nm' := SV.name) (fun _ (s : Stream) => s.view) (fun _ _ => rfl) (fun _ _ => rfl)).1
    h.toScope

theorem Sys.CatWF.stream {y : Sys} (h : y.CatWF) {k : Nat} {s : Stream} (hm : (k, s) ∈ y.streams) : s.view.WF :=
  h.all (k, s.view) (mem_mapE (f := fun _ (s : Stream) => s.view).2 ⟨(k, s), hm, rfl⟩)

theorem SV.WF.scope {s : Stream} (h : s.view.WF) : Scope Topic.id Topic.name s.topics :=
  (scope_mapE (idf' := TV.id) (nm' := TV.name) (fun _ (t : Topic) => t.view) (fun _ _ => rfl) (fun _ _ => rfl)).1
    h.toScope

theorem SV.WF.topic {s : Stream} (h : s.view.WF) {k : Nat} {t : Topic} (hm : (k, t) ∈ s.topics) : t.view.WF :=
  h.all (k, t.view) (mem_mapE (f := fun _ (t : Topic) => t.view).2 ⟨(k, t), hm, rfl⟩)

theorem TV.WF.scope {t : Topic} (h : t.view.WF) : Scope Group.id Group.name t.groups :=
  (scope_mapE (idf' := GV.id) (nm' := GV.name) (fun _ (g : Group) => g.view) (fun _ _ => rfl) (fun _ _ => rfl)).1
    h.2.toScope

theorem TV.WF.group_nparts {t : Topic} (h : t.view.WF) {k : Nat} {g : Group} (hm : (k, g) ∈ t.groups) :
    g.nparts = t.parts.length := by
  have := h.2.all (k, g.view) (mem_mapE (f := fun _ (g : Group) => g.view).2 ⟨(k, g), hm, rfl⟩)
  simpa [Topic.view, Group.view] using this

theorem TV.WF.part_keys {t : Topic} (h : t.view.WF) : t.parts.map (·.1) = List.range' 1 t.parts.length := by
  have := h.1
  simpa [Topic.view] using this

theorem TV.WF.parts_asc {t : Topic} (h : t.view.WF) : Asc t.parts := by
  unfold Asc
  have := List.pairwise_lt_range' (s := 1) (n := t.parts.length)
  rw [← h.part_keys, List.pairwise_map] at this
  exact this

theorem Sys.CatWF.mem_of_find {y : Sys} (h : y.CatWF) {k : Nat} {s : Stream} (hf : find? y.streams k = some s) :
    (s.id, s) ∈ y.streams :=
  h.scope.mem_of_find hf

theorem SV.WF.mem_of_find {s : Stream} (h : s.view.WF) {k : Nat} {t : Topic} (hf : find? s.topics k = some t) :
    (t.id, t) ∈ s.topics :=
  h.scope.mem_of_find hf

theorem TV.WF.mem_of_find {t : Topic} (h : t.view.WF) {k : Nat} {g : Group} (hf : find? t.groups k = some g) :
    (g.id, g) ∈ t.groups :=
  h.scope.mem_of_find hf

theorem Sys.CatWF.findStream {y : Sys} (h : y.CatWF) {si : Ident} {s : Stream} :
    y.findStream si = .ok s ↔ (s.id, s) ∈ y.streams ∧ si.Matches s.id s.name := by
  rw [Sys.findStream_ok, h.scope.findI_iff]

theorem SV.WF.findTopic {s : Stream} (h : s.view.WF) {ti : Ident} {t : Topic} :
    s.findTopic ti = .ok t ↔ (t.id, t) ∈ s.topics ∧ ti.Matches t.id t.name := by
  rw [Stream.findTopic_ok, h.scope.findI_iff]

theorem TV.WF.findGroup {t : Topic} (h : t.view.WF) {gi : Ident} {g : Group} :
    t.findGroup gi = .ok g ↔ (g.id, g) ∈ t.groups ∧ gi.Matches g.id g.name := by
  rw [Topic.findGroup_ok, h.scope.findI_iff]

theorem Sys.CatWF.find_stream {y : Sys} (h : y.CatWF) {si : Ident} {s : Stream} (hs : y.findStream si = .ok s) :
    find? y.streams s.id = some s := find?_of_mem h.scope.asc (h.findStream.1 hs).1

theorem Sys.CatWF.find_topic {y : Sys} (h : y.CatWF) {si ti : Ident} {s : Stream} {t : Topic}
    (hs : y.findStream si = .ok s) (ht : s.findTopic ti = .ok t) : find? s.topics t.id = some t := by
  have hS := h.stream (h.findStream.1 hs).1
  exact find?_of_mem hS.scope.asc (hS.findTopic.1 ht).1

theorem Sys.CatWF.part_keys {y : Sys} (h : y.CatWF) {si ti : Ident} {s : Stream} {t : Topic}
    (hs : y.findStream si = .ok s) (ht : s.findTopic ti = .ok t) :
    t.parts.map (·.1) = List.range' 1 t.parts.length := by
  have hS := h.stream (h.findStream.1 hs).1
  exact (hS.topic (hS.findTopic.1 ht).1).part_keys

section
open Iggy.Log

def topicOf (l : List (Nat × Stream)) (sid tid : Nat) : Option Topic :=
  (find? l sid).bind (fun s => find? s.topics tid)

def partOf (l : List (Nat × Stream)) (k : PKey) : Option Part :=
  (topicOf l k.1 k.2.1).bind (fun t => find? t.parts k.2.2)

def groupOf (l : List (Nat × Stream)) (k : Nat × Nat × Nat) : Option Group :=
  (topicOf l k.1 k.2.1).bind (fun t => find? t.groups k.2.2)

theorem topicOf_of_find {l : List (Nat × Stream)} {sid : Nat} {s : Stream} (hk : find? l sid = some s) (tid : Nat) :
    topicOf l sid tid = find? s.topics tid := by
  rw [topicOf, hk]; rfl

theorem partOf_of_find {l : List (Nat × Stream)} {sid tid : Nat} {s : Stream} {t : Topic} (hk : find? l sid = some s)
    (hkt : find? s.topics tid = some t) (c : Nat) : partOf l (sid, tid, c) = find? t.parts c := by
  rw [partOf, topicOf_of_find hk, hkt]; rfl

end

end Iggy.Sys

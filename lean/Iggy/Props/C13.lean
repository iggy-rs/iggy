/-
C13 — every request the SDK can build is decoded by the server to the same request; the journal and
on-disk encodings of the same values round-trip too.

Model: `Iggy/Codec/{Basic,Types,Encode,Decode,Frame,Storage,Journal}.lean` — encoders and decoders written
SEPARATELY, each mirroring its Rust source (`to_bytes` / `from_bytes` in sdk/src/**, server/src/command.rs,
server/src/streaming/models/messages.rs, batching/message_batch.rs, segments/indexes/*,
server/src/state/{entry,command}.rs), including the minimum-length guards with the constants as they are in
the source. The model is tied to the real code byte for byte by the `codec` harness mode and the
`codecjudge` executable (valid values of all 45 commands and the storage records; and mutated / truncated
frames, on which model and real decoder agree on accept/refuse and on the decoded value).

Reading the statements:
* bytes are `List UInt8`; integers are `Nat`, `X.Valid` bounds them by their wire width and mirrors the
  SDK's `validate()`; a decoder returns `none` where the Rust decoder returns `Err` OR panics;
* N1: an optional map (headers, stream / topic permissions) is a list, `[]` standing for both `None` and
  `Some(empty)` (a single wire encoding, fix ed23352);
* N2: message id 0 means "server, assign one": `decodeMessage fresh` returns the fresh id, so the
  statements speak of `c.withIds fresh` (the identity on everything but `SendMessages` with a 0 id);
* names are byte lists with the side predicate `validUtf8` (executable, mirrors `str::from_utf8`).
Section 7 lists what is FALSE of the current source (values `validate()` accepts that do not survive the
wire), each with its machine-checked witness; the round-trip theorems exclude exactly those through `Valid`.
Section 7b lists values the wire does not carry either but which `validate()` / the SDK constructor refuses
(`¬ Valid`; fixes 824bdc5, bbd23c0, 5413855), so that nothing accepted is lost, and the one- and two-byte
tokens, which the decoder's guard 2 (fix d573560) lets through.
-/
import Iggy.Codec.Lemmas
namespace Iggy.Props.C13
open Iggy.Codec

-- as in `Iggy/Codec/Lemmas.lean`: `simp` stays out of the continuation of a `>>=`
attribute [local congr] bind_congr_left

/-! ## 1. integers -/

theorem leBytes_length (k n : Nat) : (leBytes k n).length = k := Iggy.Codec.leBytes_length k n

/-- an integer that fits `k` bytes survives `put_uN_le` / `uN::from_le_bytes` -/
theorem le_roundtrip {k n : Nat} (h : n < 256 ^ k) : leVal (leBytes k n) = n :=
  Iggy.Codec.leVal_leBytes_of_lt h

/-! ## 2. building blocks -/

/-- `Identifier` (numeric, or named with 1..255 bytes): kind, length, value -/
theorem identifier_roundtrip (i : Identifier) (rest : Bytes) (h : i.Valid) :
    decodeIdentifier (encodeIdentifier i ++ rest) = some (i, rest) :=
  Iggy.Codec.identifier_roundtrip i rest h

theorem consumer_roundtrip (c : Consumer) (rest : Bytes) (h : c.Valid) :
    decodeConsumer (encodeConsumer c ++ rest) = some (c, rest) :=
  Iggy.Codec.consumer_roundtrip c rest h

/-- `Partitioning` (balanced, partition id, messages key of 1..255 bytes). PARTIAL: the balanced
partitioning is 2 bytes and `Partitioning::from_bytes` refuses buffers shorter than 3, so something must
follow (inside `SendMessages` a message always does); see `partitioning_balanced_alone_refused`. -/
theorem partitioning_roundtrip_partial (p : Partitioning) (rest : Bytes) (h : p.Valid)
    (hrest : p.kind = .balanced → p.value = [] → rest ≠ []) :
    decodePartitioning (encodePartitioning p ++ rest) = some (p, rest) :=
  Iggy.Codec.partitioning_roundtrip p rest h hrest

/-- `PollingStrategy` (all five kinds), exactly 9 bytes -/
theorem pollingStrategy_roundtrip (s : PollingStrategy) (h : s.Valid) :
    decodeStrategy (encodeStrategy s) = some s := Iggy.Codec.strategy_roundtrip s h

/-- an optional id (`Option<u32>`, `None` as 0) — for every value but `Some(0)` -/
theorem optId_roundtrip (o : Option Nat) (rest : Bytes) (h : OptId.Valid o) :
    decodeOptId (encodeOptId o ++ rest) = some (o, rest) := Iggy.Codec.optId_roundtrip o rest h

theorem name_roundtrip (s rest : Bytes) (hl : s.length < 256) (hu : validUtf8 s = true) :
    decodeStr8 (encodeStr8 s ++ rest) = some (s, rest) := Iggy.Codec.str8_roundtrip s rest hl hu

theorem headerKind_roundtrip (k : HeaderKind) : HeaderKind.ofCode k.code.toNat = some k :=
  Iggy.Codec.headerKind_roundtrip k

/-- one header entry: key (1..255 bytes), kind, value (1..255 bytes) -/
theorem header_roundtrip (h : Header) (rest : Bytes) (hv : h.Valid) :
    decodeHeader (encodeHeader h ++ rest) = some (h, rest) := Iggy.Codec.header_roundtrip h rest hv

/-- a header map of ANY size with pairwise distinct keys, in any iteration order -/
theorem headers_roundtrip (hs : List Header) (h : HeadersValid hs) :
    decodeHeaders (encodeHeaders hs) = some hs := Iggy.Codec.headers_roundtrip hs h

/-- a message (send side): id, optional headers, payload of 1..2^32-1 bytes; id 0 comes back fresh (N2) -/
theorem message_roundtrip (fresh : Nat) (m : Message) (rest : Bytes) (h : m.Valid) :
    decodeMessage fresh (encodeMessage m ++ rest) = some (m.withId fresh, rest) :=
  Iggy.Codec.message_roundtrip fresh m rest h

theorem message_roundtrip_exact (fresh : Nat) (m : Message) (rest : Bytes) (h : m.Valid) (hid : m.id ≠ 0) :
    decodeMessage fresh (encodeMessage m ++ rest) = some (m, rest) := by
  rw [Iggy.Codec.message_roundtrip fresh m rest h]
  simp [Message.withId, hid]

/-- `Permissions`: global flags, optional stream map, optional topic maps, of ANY size (N1) -/
theorem permissions_roundtrip (p : Permissions) (rest : Bytes) (hv : p.Valid) :
    decodePermissions (encodePermissions p ++ rest) = some p :=
  Iggy.Codec.permissions_roundtrip p rest hv

/-- `IggyExpiry` through its `u64` (server default, never, 1 ≤ µs < 2^64-1) -/
theorem expiry_roundtrip (e : Expiry) (h : e.Valid) : Expiry.ofNat e.toNat = e :=
  Iggy.Codec.expiry_roundtrip e h

/-- `MaxTopicSize` through its `u64` -/
theorem maxTopicSize_roundtrip (e : MaxTopicSize) (h : e.Valid) : MaxTopicSize.ofNat e.toNat = e :=
  Iggy.Codec.maxTopicSize_roundtrip e h

/-! ## 3. the commands, one by one (the decoder ignores whatever follows the payload, hence `rest`) -/

theorem sendMessages_roundtrip (fresh : Nat) (c : SendMessages) (h : c.Valid) :
    decodeSendMessages fresh (encodeSendMessages c) = some (c.withIds fresh) :=
  Iggy.Codec.sendMessages_roundtrip fresh c h

theorem pollMessages_roundtrip (c : PollMessages) (rest : Bytes) (h : c.Valid) :
    decodePollMessages (encodePollMessages c ++ rest) = some c :=
  Iggy.Codec.pollMessages_roundtrip c rest h

theorem flushUnsavedBuffer_roundtrip (c : FlushUnsavedBuffer) (rest : Bytes) (h : c.Valid) :
    decodeFlushUnsavedBuffer (encodeFlushUnsavedBuffer c ++ rest) = some c :=
  Iggy.Codec.flushUnsavedBuffer_roundtrip c rest h

/-- GetConsumerOffset, DeleteConsumerOffset -/
theorem consumerOffset_roundtrip (c : ConsumerOffsetRef) (rest : Bytes) (h : c.Valid) :
    decodeConsumerOffsetRef (encodeConsumerOffsetRef c ++ rest) = some c :=
  Iggy.Codec.consumerOffsetRef_roundtrip c rest h

theorem storeConsumerOffset_roundtrip (c : StoreConsumerOffset) (rest : Bytes) (h : c.Valid) :
    decodeStoreConsumerOffset (encodeStoreConsumerOffset c ++ rest) = some c :=
  Iggy.Codec.storeConsumerOffset_roundtrip c rest h

theorem createStream_roundtrip (c : CreateStream) (rest : Bytes) (h : c.Valid) :
    decodeCreateStream (encodeCreateStream c ++ rest) = some c :=
  Iggy.Codec.createStream_roundtrip c rest h

theorem updateStream_roundtrip (c : UpdateStream) (rest : Bytes) (h : c.Valid) :
    decodeUpdateStream (encodeUpdateStream c ++ rest) = some c :=
  Iggy.Codec.updateStream_roundtrip c rest h

/-- GetStream, DeleteStream, PurgeStream, GetTopics, GetUser, DeleteUser -/
theorem singleIdentifier_roundtrip (i : Identifier) (rest : Bytes) (h : i.Valid) :
    decodeSingleId (encodeIdentifier i ++ rest) = some i := Iggy.Codec.singleId_roundtrip i rest h

/-- GetTopic, DeleteTopic, PurgeTopic, GetConsumerGroups -/
theorem topicRef_roundtrip (c : TopicRef) (rest : Bytes) (h : c.Valid) :
    decodeTopicRef (encodeTopicRef c ++ rest) = some c := Iggy.Codec.topicRef_roundtrip c rest h

theorem createTopic_roundtrip (c : CreateTopic) (rest : Bytes) (h : c.Valid) :
    decodeCreateTopic (encodeCreateTopic c ++ rest) = some c :=
  Iggy.Codec.createTopic_roundtrip c rest h

theorem updateTopic_roundtrip (c : UpdateTopic) (rest : Bytes) (h : c.Valid) :
    decodeUpdateTopic (encodeUpdateTopic c ++ rest) = some c :=
  Iggy.Codec.updateTopic_roundtrip c rest h

/-- CreatePartitions, DeletePartitions -/
theorem partitions_roundtrip (c : Partitions) (rest : Bytes) (h : c.Valid) :
    decodePartitions (encodePartitions c ++ rest) = some c := Iggy.Codec.partitions_roundtrip c rest h

theorem createConsumerGroup_roundtrip (c : CreateConsumerGroup) (rest : Bytes) (h : c.Valid) :
    decodeCreateConsumerGroup (encodeCreateConsumerGroup c ++ rest) = some c :=
  Iggy.Codec.createConsumerGroup_roundtrip c rest h

/-- GetConsumerGroup, DeleteConsumerGroup, JoinConsumerGroup, LeaveConsumerGroup -/
theorem consumerGroupRef_roundtrip (c : GroupRef) (rest : Bytes) (h : c.Valid) :
    decodeGroupRef (encodeGroupRef c ++ rest) = some c := Iggy.Codec.groupRef_roundtrip c rest h

theorem loginUser_roundtrip (c : LoginUser) (rest : Bytes) (h : c.Valid) :
    decodeLoginUser (encodeLoginUser c ++ rest) = some c := Iggy.Codec.loginUser_roundtrip c rest h

theorem createUser_roundtrip (c : CreateUser) (rest : Bytes) (h : c.Valid) :
    decodeCreateUser (encodeCreateUser c ++ rest) = some c := Iggy.Codec.createUser_roundtrip c rest h

theorem updateUser_roundtrip (c : UpdateUser) (rest : Bytes) (h : c.Valid) :
    decodeUpdateUser (encodeUpdateUser c ++ rest) = some c := Iggy.Codec.updateUser_roundtrip c rest h

theorem updatePermissions_roundtrip (c : UpdatePermissions) (rest : Bytes) (h : c.Valid) :
    decodeUpdatePermissions (encodeUpdatePermissions c ++ rest) = some c :=
  Iggy.Codec.updatePermissions_roundtrip c rest h

theorem changePassword_roundtrip (c : ChangePassword) (rest : Bytes) (h : c.Valid) :
    decodeChangePassword (encodeChangePassword c ++ rest) = some c :=
  Iggy.Codec.changePassword_roundtrip c rest h

theorem createPersonalAccessToken_roundtrip (c : CreatePat) (rest : Bytes) (h : c.Valid) :
    decodeCreatePat (encodeCreatePat c ++ rest) = some c := Iggy.Codec.createPat_roundtrip c rest h

/-- DeletePersonalAccessToken: every name `validate()` accepts (3..30 bytes); decoder guard 4 -/
theorem deletePersonalAccessToken_roundtrip (n rest : Bytes)
    (h : NameOk MIN_PAT_NAME_LENGTH MAX_PAT_NAME_LENGTH n) :
    decodePatString (encodeStr8 n ++ rest) = some n :=
  Iggy.Codec.patString_roundtrip n rest h (by decide)

/-- LoginWithPersonalAccessToken: EVERY token `validate()` accepts (1..100 bytes); decoder guard 2
(fix d573560) -/
theorem loginWithPersonalAccessToken_roundtrip (t rest : Bytes) (h : NameOk 1 MAX_PAT_LENGTH t) :
    decodeLoginPat (encodeStr8 t ++ rest) = some t :=
  Iggy.Codec.loginPat_roundtrip t rest h (by decide)

theorem getClient_roundtrip (id : Nat) (h : id < 2 ^ 32) : decodeGetClient (le32 id) = some id :=
  Iggy.Codec.getClient_roundtrip id h

/-- GetSnapshotFile: every command `validate()` accepts (at most 255 snapshot types, fix 5413855;
see `snapshot_256_types_lost`, `snapshot_over_255_types_invalid`) -/
theorem getSnapshot_roundtrip (c : GetSnapshot) (rest : Bytes) (h : c.Valid) :
    decodeGetSnapshot (encodeGetSnapshot c ++ rest) = some c :=
  Iggy.Codec.getSnapshot_roundtrip c rest h

/-! ## 4. `ServerCommand`, the code table, the TCP frames -/

theorem code_table_injective (a b : CommandKind) (h : a.code = b.code) : a = b :=
  Iggy.Codec.code_injective a b h

theorem code_table_complete (k : CommandKind) : k ∈ CommandKind.all := Iggy.Codec.mem_all k

theorem code_table_size : CommandKind.all.length = 45 := by decide

/-- the server's `match code` sends every command's code to that command's own decoder -/
theorem dispatch_total (k : CommandKind) : CommandKind.ofCode k.code = some k :=
  Iggy.Codec.kind_roundtrip k

theorem dispatch_payload (fresh : Nat) (k : CommandKind) (payload : Bytes) :
    decodeCommand fresh (le32 k.code ++ payload) = decodePayload fresh k payload :=
  Iggy.Codec.decodeCommand_code fresh k payload

/-- ALL 45 commands: `ServerCommand::from_bytes(cmd.to_bytes())` is the command (with N2 for ids) -/
theorem command_roundtrip (fresh : Nat) (c : Command) (h : c.Valid) :
    decodeCommand fresh (encodeCommand c) = some (c.withIds fresh) :=
  Iggy.Codec.command_roundtrip fresh c h

theorem command_roundtrip_exact (fresh : Nat) (c : Command) (h : c.Valid)
    (hid : ∀ s, c = .sendMessages s → ∀ m ∈ s.messages, m.id ≠ 0) :
    decodeCommand fresh (encodeCommand c) = some c := by
  rw [Iggy.Codec.command_roundtrip fresh c h]
  unfold Command.withIds
  split
  · next s => rw [List.map_congr_left (g := id) fun m hm => by simp [hid s rfl m hm], List.map_id]
  · rfl

/-- the request frame (length, code, payload) written by the SDK is read back by the server's loop as
the same command, leaving the following frames untouched -/
theorem frame_roundtrip (fresh : Nat) (c : Command) (rest : Bytes) (h : c.Valid)
    (hl : (encodeCommand c).length < 2 ^ 32) :
    decodeFrame fresh (encodeFrame c ++ rest) = some (c.withIds fresh, rest) :=
  Iggy.Codec.frame_roundtrip fresh c rest h hl

/-- the response frame (status, length, payload) -/
theorem response_roundtrip (r : Response) (rest : Bytes) (h : r.Valid) :
    decodeResponse (encodeResponse r ++ rest) = some (r, rest) :=
  Iggy.Codec.response_roundtrip r rest h

/-! ## 5. the minimum-length guards never refuse a valid encoding -/

/-- every payload decoder's `if bytes.len() < N` (`CommandKind.minLen`: N as in the source, which has fixes
8c97924 and d573560) lets every valid command through. Three of the guards are shown to be attained:
`pollMessages_guard_tight`, `createUser_guard_tight`, `loginWithPersonalAccessToken_guard_tight`. -/
theorem min_length_ok (c : Command) (h : c.Valid) : c.kind.minLen ≤ (encodePayload c).length :=
  Iggy.Codec.payload_min_length c h

theorem min_length_ok_identifier (i : Identifier) (h : i.Valid) :
    IDENTIFIER_MIN_LEN ≤ (encodeIdentifier i).length := Iggy.Codec.identifier_min_length i h

theorem min_length_ok_consumer (c : Consumer) (h : c.Valid) :
    CONSUMER_MIN_LEN ≤ (encodeConsumer c).length := Iggy.Codec.consumer_min_length c h

theorem min_length_ok_message (m : Message) : MESSAGE_MIN_LEN ≤ (encodeMessage m).length :=
  Iggy.Codec.message_min_length m

/-- PARTIAL: every partitioning but the balanced one (2 bytes) reaches the guard of 3 on its own -/
theorem min_length_ok_partitioning_partial (p : Partitioning) (h : p.Valid) (hk : p.kind ≠ .balanced) :
    PARTITIONING_MIN_LEN ≤ (encodePartitioning p).length := by
  have := h.2 hk
  rw [Iggy.Codec.partitioning_length]; simp [PARTITIONING_MIN_LEN]; omega

/-- the guard of `PollMessages` (28) is attained: three one-byte names -/
theorem pollMessages_guard_tight :
    ∃ c : PollMessages, c.Valid ∧ (encodePollMessages c).length = POLL_MESSAGES_MIN_LEN :=
  ⟨⟨⟨.consumer, .named [0x61]⟩, .named [0x62], .named [0x63], some 1, ⟨.offset, 0⟩, 10, true⟩,
    by decide, by decide⟩

/-- so is the guard of `CreateUser` (10): 3-byte user name and password, no permissions -/
theorem createUser_guard_tight :
    ∃ c : CreateUser, c.Valid ∧ (encodeCreateUser c).length = CREATE_USER_MIN_LEN :=
  ⟨⟨[0x61, 0x62, 0x63], [0x61, 0x62, 0x63], .active, none⟩, by decide, by decide⟩

/-- the guard of `LoginWithPersonalAccessToken` (2) is attained: a one-byte token -/
theorem loginWithPersonalAccessToken_guard_tight :
    ∃ t : Bytes, (Command.loginWithPersonalAccessToken t).Valid ∧
      (encodePayload (.loginWithPersonalAccessToken t)).length = LOGIN_PAT_MIN_LEN :=
  ⟨[0x61], by decide, by decide⟩

/-! ## 6. storage: retained messages, batches, index records -/

/-- `RetainedMessage::extend` then the batch iterator's step (`u32` length, `try_from_bytes`) -/
theorem retainedMessage_roundtrip (m : RetainedMessage) (rest : Bytes) (h : m.Valid) :
    decodeRetained (encodeRetained m ++ rest) = some (m, rest) :=
  Iggy.Codec.retained_roundtrip m rest h

/-- `try_from_bytes` on exactly one record -/
theorem retainedMessage_body_roundtrip (m : RetainedMessage) (h : m.Valid) :
    decodeRetainedBody (encodeRetainedBody m) = some m := Iggy.Codec.retainedBody_roundtrip m h

theorem batchHeader_roundtrip (h : BatchHeader) (rest : Bytes) (hv : h.Valid) :
    decodeBatchHeader (encodeBatchHeader h ++ rest) = some (h, rest) :=
  Iggy.Codec.batchHeader_roundtrip h rest hv

theorem batchHeader_length (h : BatchHeader) : (encodeBatchHeader h).length = 24 :=
  Iggy.Codec.encodeBatchHeader_length h

/-- a whole batch of ANY number of records (header carrying the body length) reads back record by record -/
theorem batch_roundtrip (h : BatchHeader) (ms : List RetainedMessage) (rest : Bytes) (hv : h.Valid)
    (hms : ∀ m ∈ ms, m.Valid) (hlen : h.length = (encodeRetainedAll ms).length) :
    decodeBatch (encodeBatch h ms ++ rest) = some (h, ms, rest) :=
  Iggy.Codec.batch_roundtrip h ms rest hv hms hlen

theorem index_roundtrip (i : IndexRecord) (rest : Bytes) (h : i.Valid) :
    decodeIndex (encodeIndex i ++ rest) = some (i, rest) := Iggy.Codec.index_roundtrip i rest h

theorem index_length (i : IndexRecord) : (encodeIndex i).length = 16 := Iggy.Codec.encodeIndex_length i

/-- an index file of ANY number of records reads back as written; a torn last record is ignored -/
theorem indexFile_roundtrip (is : List IndexRecord) (junk : Bytes) (fuel : Nat) (hf : is.length ≤ fuel)
    (hv : ∀ i ∈ is, i.Valid) (hj : junk.length < INDEX_SIZE) :
    decodeIndexes fuel (encodeIndexes is ++ junk) = is :=
  Iggy.Codec.indexes_roundtrip is junk fuel hf hv hj

/-! ## 6b. the journal: state entries and entry commands -/

/-- `StateEntry::to_bytes` / `from_bytes`: the nine fixed fields, the context, the command bytes -/
theorem stateEntry_roundtrip (e : StateEntry) (h : e.Valid) :
    decodeStateEntry (encodeStateEntry e) = some e := Iggy.Codec.stateEntry_roundtrip e h

/-- `EntryCommand::to_bytes` / `from_bytes` for all 19 journaled commands (18 carrying their wire payload,
`CreatePersonalAccessToken` carrying the token hash too); what follows the entry is ignored -/
theorem entryCommand_roundtrip (e : EntryCommand) (rest : Bytes) (h : e.Valid) :
    decodeEntryCommand (encodeEntryCommand e ++ rest) = some e :=
  Iggy.Codec.entryCommand_roundtrip e rest h

/-- a command written into a state entry and read back: entry and command both survive -/
theorem journal_roundtrip (e : StateEntry) (c : EntryCommand) (he : e.Valid) (hc : c.Valid)
    (hcmd : e.command = encodeEntryCommand c) :
    (decodeStateEntry (encodeStateEntry e)).bind (fun e' => decodeEntryCommand e'.command) = some c := by
  rw [Iggy.Codec.stateEntry_roundtrip e he, Option.bind_some, hcmd,
    of_append_nil (Iggy.Codec.entryCommand_roundtrip c [] hc)]

/-! ## 7. findings: values `validate()` accepts that the wire does not carry (all reproduced on the
real code by the harness' edge probes) -/

/-- the balanced partitioning on its own (2 bytes) is refused by `Partitioning::from_bytes` (guard 3) -/
theorem partitioning_balanced_alone_refused :
    decodePartitioning (encodePartitioning ⟨.balanced, []⟩) = none := by decide

/-- E1. `partition_id: Some(0)` (accepted by every `validate()`) is decoded as `None` -/
theorem optId_some_zero_lost (rest : Bytes) :
    decodeOptId (encodeOptId (some 0) ++ rest) = some (none, rest) := by
  simp [decodeOptId, encodeOptId, Iggy.Codec.readLE4 rest (n := 0) (by decide)]

/-- E2. `LoginUser { version: Some(""), .. }` is decoded with `version: None` -/
theorem optMeta_some_empty_lost (rest : Bytes) :
    decodeOptMeta (encodeOptMeta (some []) ++ rest) = some (none, rest) := by
  simp [decodeOptMeta, encodeOptMeta, Iggy.Codec.readLE4 rest (n := 0) (by decide)]

/-- E3. an expiry of 0 µs is decoded as "server default", one of 2^64-1 µs as "never" -/
theorem expiry_extremes_lost :
    Expiry.ofNat (Expiry.expireMicros 0).toNat = .serverDefault ∧
    Expiry.ofNat (Expiry.expireMicros (2 ^ 64 - 1)).toNat = .neverExpire := by
  constructor <;> simp [Expiry.ofNat, Expiry.toNat]

/-- E4. `MaxTopicSize::Custom(0)` is decoded as "server default", `Custom(u64::MAX)` as "unlimited" -/
theorem maxTopicSize_extremes_lost :
    MaxTopicSize.ofNat (MaxTopicSize.custom 0).toNat = .serverDefault ∧
    MaxTopicSize.ofNat (MaxTopicSize.custom (2 ^ 64 - 1)).toNat = .unlimited := by
  constructor <;> simp [MaxTopicSize.ofNat, MaxTopicSize.toNat]

/-! ## 7b. values the wire does not carry but `validate()` / the SDK constructor refuses (fixes 5413855,
bbd23c0, 824bdc5), and the short tokens the decoder takes (fix d573560) -/

/-- `LoginWithPersonalAccessToken::validate` accepts a 1-byte token; its encoding (2 bytes) passes the
decoder's guard `bytes.len() < 2` and decodes, and so does a 2-byte token. -/
example : (Command.loginWithPersonalAccessToken [0x61]).Valid := by decide
example : decodeCommand 0 (encodeCommand (.loginWithPersonalAccessToken [0x61])) =
    some (.loginWithPersonalAccessToken [0x61]) := by decide
example : decodeCommand 0 (encodeCommand (.loginWithPersonalAccessToken [0x61, 0x62])) =
    some (.loginWithPersonalAccessToken [0x61, 0x62]) := by decide

/-- the second guard (`bytes.len() < 1 + token_length`): a length byte promising more than follows is
refused -/
theorem login_token_truncated_refused (l : UInt8) (body : Bytes) (h : body.length < l.toNat) :
    decodeLoginPat (l :: body) = none := by
  have h' : ¬ l.toNat ≤ body.length := by omega
  simp [decodeLoginPat, decodeStr8, readU8, takeN, h']

/-- `DeletePersonalAccessToken::from_bytes` has the guard 4; its `validate()` asks 3 bytes at least, so
nothing it accepts is lost — but a 2-byte name (refused by `validate()`) is refused by the decoder too -/
example : ¬ (Command.deletePersonalAccessToken [0x61, 0x62]).Valid := by decide
example : decodeCommand 0 (encodeCommand (.deletePersonalAccessToken [0x61, 0x62])) = none := by decide

/-- `GetSnapshot` with 256 snapshot types: the count byte wraps to 0 and the server decodes NO type at all.
`validate()` refuses such a command: `snapshot_over_255_types_invalid`. -/
theorem snapshot_256_types_lost (c : Nat) (ts : List Nat) (hc : snapshotCompressionCode c = true)
    (hl : ts.length = 256) : decodeGetSnapshot (encodeGetSnapshot ⟨c, ts⟩) = some ⟨c, []⟩ := by
  have hc256 : c < 256 := by simp [snapshotCompressionCode] at hc; omega
  have hok : SnapshotCompression.okCode c = true := by
    simpa [SnapshotCompression.okCode, snapshotCompressionCode] using hc
  simp [decodeGetSnapshot, encodeGetSnapshot, u8, hl, Iggy.Codec.u8_toNat hc256, hok, decodeSnapshotTypes]

/-- `GetSnapshot::validate` refuses more than 255 snapshot types (fix 5413855) -/
theorem snapshot_over_255_types_invalid (c : GetSnapshot) (h : 255 < c.types.length) : ¬ c.Valid := by
  intro hv
  have := hv.2.2.1
  omega

example : ¬ (GetSnapshot.mk 1 (List.replicate 256 1)).Valid :=
  snapshot_over_255_types_invalid _ (by
    show 255 < (List.replicate 256 1).length
    rw [List.length_replicate]; omega)

/-- ... and 255 types are accepted and carried (`getSnapshot_roundtrip`) -/
example : (GetSnapshot.mk 1 (List.replicate 255 1)).Valid := by
  refine ⟨by decide, ?_, ?_, ?_⟩
  · intro t ht
    rw [List.eq_of_mem_replicate ht]; decide
  · show (List.replicate 255 1).length ≤ 255
    rw [List.length_replicate]; omega
  · intro h
    have := List.eq_of_mem_replicate h
    omega

/-- A header key longer than 255 bytes is written as is and refused by the decoder. `HeaderKey::new` does
not build one: it checks the length of the lower-cased key, the one that travels (`to_lowercase` can
lengthen a key; fix bbd23c0): see `header_key_over_255_invalid`. -/
theorem header_key_over_255_refused (h : Header) (rest : Bytes) (hk : 255 < h.key.length)
    (hk' : h.key.length < 2 ^ 32) : decodeHeader (encodeHeader h ++ rest) = none := by
  simp only [decodeHeader, encodeHeader, codec, hk',
    ↓if_pos (Or.inr hk : h.key.length = 0 ∨ h.key.length > 255)]

/-- `HeaderKey::new` refuses a key whose travelling (lower-cased) form exceeds 255 bytes -/
theorem header_key_over_255_invalid (h : Header) (hk : 255 < h.key.length) : ¬ h.Valid := by
  intro hv
  have := hv.1.2.1
  omega

/-- A message with an EMPTY payload is refused by `Message::from_bytes`. `SendMessages::validate` refuses a
batch holding one: `sendMessages_empty_payload_invalid`. -/
theorem empty_payload_message_refused (fresh id : Nat) (rest : Bytes) (hid : id < 2 ^ 128) :
    decodeMessage fresh (encodeMessage ⟨id, [], []⟩ ++ rest) = none := by
  have t0 : takeN 0 (le32 0 ++ rest) = some ([], le32 0 ++ rest) := takeN_append [] _
  simp only [decodeMessage, ↓guard_pass (Iggy.Codec.message_min_length ⟨id, [], []⟩), encodeMessage,
    encodeHeaders, List.length_nil, codec, hid, Iggy.Codec.readLE4 (n := 0) _ (by decide), t0]
  simp

/-- `SendMessages::validate` refuses a batch holding ANY message with an empty payload, not only a batch
without any payload (fix 824bdc5) -/
theorem sendMessages_empty_payload_invalid (c : SendMessages) (m : Message) (hm : m ∈ c.messages)
    (he : m.payload = []) : ¬ c.Valid := by
  intro hv
  have := (hv.2.2.2.2.1 m hm).2.2.2.1
  simp [he] at this

example : ¬ (SendMessages.mk (.numeric 1) (.numeric 1) ⟨.balanced, []⟩
    [⟨1, [], [0x68]⟩, ⟨2, [], []⟩]).Valid := by decide

/-! ## 8. non-vacuity: the validity predicates are inhabited by ordinary values, on which the executable
model computes the round trip -/

def exPoll : PollMessages :=
  ⟨⟨.group, .numeric 5⟩, .numeric 1, .named [0x61, 0x62], none, ⟨.timestamp, 1700000000⟩, 10, true⟩

example : exPoll.Valid := by decide
example : decodePollMessages (encodePollMessages exPoll) = some exPoll := by decide +kernel

def exSend : SendMessages :=
  ⟨.numeric 1, .named [0x74], ⟨.messagesKey, [1, 2, 3]⟩,
   [⟨0, [], [0x68, 0x69]⟩,
    ⟨42, [⟨[0x6b], .uint32, [1, 0, 0, 0]⟩, ⟨[0x6c], .string, [0x61]⟩], [0xff]⟩]⟩

example : exSend.Valid := by decide
example : decodeSendMessages 99 (encodeSendMessages exSend) = some (exSend.withIds 99) := by decide +kernel

def exUser : CreateUser :=
  ⟨[0x62, 0x6f, 0x62], [0x70, 0x77, 0x64], .active,
   some ⟨[true, false, true, false, true, false, true, false, true, false],
     [⟨1, [true, true, false, false, true, true], [⟨2, [true, false, false, true]⟩, ⟨3, [false, false, false, false]⟩]⟩,
      ⟨7, [false, false, false, false, false, false], []⟩]⟩⟩

example : exUser.Valid := by decide
example : decodeCreateUser (encodeCreateUser exUser) = some exUser := by decide +kernel

def exTopic : CreateTopic :=
  ⟨.named [0x73], some 3, 1000, .gzip, .expireMicros 1000000, .unlimited, some 3, [0x74]⟩

example : exTopic.Valid := by decide
example : (Command.createTopic exTopic).Valid := by decide
example : decodeCommand 0 (encodeCommand (.createTopic exTopic)) = some (.createTopic exTopic) := by decide +kernel

def exRetained : RetainedMessage := ⟨5, .available, 1700000000, 42, 123456, [1, 2, 3], [0x68, 0x69]⟩

example : exRetained.Valid := by decide
example : decodeRetained (encodeRetained exRetained) = some (exRetained, []) := by decide +kernel
example : (⟨7, 100, 1700000000⟩ : IndexRecord).Valid := by decide

def exEntryCmd : EntryCommand := .cmd (.createTopic exTopic)

example : exEntryCmd.Valid := by decide
example : decodeEntryCommand (encodeEntryCommand exEntryCmd) = some exEntryCmd := by decide +kernel
example : (EntryCommand.createPatWithHash ⟨[0x74, 0x6f, 0x6b], .neverExpire⟩ [0x61, 0x62]).Valid := by decide
example : (⟨3, 0, 0, 1, 0, 1700000000, 1, 99, [1], encodeEntryCommand exEntryCmd⟩ : StateEntry).Valid := by
  decide

end Iggy.Props.C13

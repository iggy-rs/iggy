/-
C12 — concurrent producers and consumers observe one totally ordered log per partition.

Model of concurrency (lock granularity): `Partition::append_messages` runs entirely under the
partition's write lock (topics/messages.rs: `partition.write().await.append_messages`), polls under
the read lock, background save / flush / eviction under the write lock.  Hence every concurrent
execution is a sequential history of these atoms in SOME order — the order in which the lock was
granted — and that order respects each client's program order (a client issues its next request
after the previous one returned).  The theorems quantify over ALL such orders (all lists of events).
Under no-wait confirmation the persister task writes the log later; until then the batch is not
visible (fix 5922a8c): a poll then returns a contiguous PREFIX of what this model says — checked by
the correspondence with scheduled (hook H3) and free-running interleavings.
PARTIAL: behaviour below this granularity (tokio file buffering, spawn_blocking order, atomics' memory
ordering) is not exhibited by the model.
-/
import Iggy.Log.RefineRun
namespace Iggy.Props.C12
open Iggy.Log

/-- one send as it reaches the partition -/
structure Ev where
  producer : Nat
  now : Nat
  msgs : List InMsg
deriving Repr

/-- what batch `e` contributes when it is executed in state `p` -/
def accepted (p : SPart) (e : Ev) : List Msg := (number p.ids p.next e.now e.msgs 0 []).2

/-- execute a schedule; returns the final state and, per event, what it stored -/
def exec : SPart → List Ev → SPart × List (List Msg)
  | p, [] => (p, [])
  | p, e :: rest =>
    let r := exec (p.append e.now e.msgs) rest
    (r.1, accepted p e :: r.2)

/-- the final state of a schedule is the specification's run of its appends, so every invariant of
`SPart.step` holds of it -/
theorem exec_fst (p : SPart) (evs : List Ev) :
    (exec p evs).1 = (evs.map fun e => SOp.append e.now e.msgs).foldl SPart.step p := by
  induction evs generalizing p with
  | nil => rfl
  | cons e rest ih => exact ih _

/-- The partition's content equals the interleaving of the sent batches in the order the lock was
granted: nothing lost, nothing duplicated, each batch contiguous. -/
theorem final_is_interleaving (p : SPart) (evs : List Ev) :
    (exec p evs).1.msgs = p.msgs ++ (exec p evs).2.flatten := by
  induction evs generalizing p with
  | nil => simp [exec]
  | cons e rest ih =>
    simp only [exec, List.flatten_cons]
    rw [ih, ← List.append_assoc]; rfl

/-- every batch occupies consecutive offsets, starting at the append position it found -/
theorem batch_contiguous (p : SPart) (e : Ev) : consecutiveFrom p.next (accepted p e) := by
  simpa [accepted] using number_consecutive p.ids p.next e.now e.msgs 0

theorem exec_consecutive (p : SPart) (evs : List Ev) :
    consecutiveFrom p.next (exec p evs).2.flatten ∧
      (exec p evs).1.next = p.next + (exec p evs).2.flatten.length := by
  induction evs generalizing p with
  | nil => exact ⟨trivial, rfl⟩
  | cons e rest ih =>
    obtain ⟨h1, h2⟩ := ih (p.append e.now e.msgs)
    simp only [exec, List.flatten_cons, List.length_append]
    exact ⟨consecutiveFrom_append_iff.2 ⟨batch_contiguous p e, h1⟩, by rw [h2, ← Nat.add_assoc]; rfl⟩

theorem exec_next_ge (p : SPart) (evs : List Ev) : p.next ≤ (exec p evs).1.next := by
  rw [(exec_consecutive p evs).2]; omega

/-- No shared offsets and total order between batches: everything stored by an earlier-executed batch
lies strictly below everything stored by a later-executed one.  In particular every producer's
batches keep their order (program order is contained in execution order). -/
theorem batches_totally_ordered (p : SPart) (e : Ev) (rest : List Ev) :
    ∀ a ∈ accepted p e, ∀ l ∈ (exec (p.append e.now e.msgs) rest).2, ∀ b ∈ l, a.off < b.off := by
  intro a ha l hl b hb
  have h : consecutiveFrom p.next (accepted p e ++ (exec (p.append e.now e.msgs) rest).2.flatten) :=
    (exec_consecutive p (e :: rest)).1
  exact (List.pairwise_append.1 h.pairwise).2.2 a ha b (List.mem_flatten.2 ⟨l, hl, hb⟩)

/-- the whole log stays gap-free and duplicate-free under any schedule -/
theorem schedule_keeps_invariant (p : SPart) (evs : List Ev) (h : p.Inv) : (exec p evs).1.Inv := by
  rw [exec_fst]; exact List.foldlRecOn _ SPart.step h fun p h op _ => SPart.step_inv p op h

/-- Every poll returns a contiguous run of fully accepted messages — never a torn or partial batch
state: a poll executes between two atoms, on a state of the sequential history. -/
theorem poll_contiguous_genuine (p : SPart) (evs : List Ev) (h : p.Inv) (off count : Nat) :
    (∃ lo, consecutiveFrom lo ((exec p evs).1.pollOffset off count)) ∧
    ∀ m ∈ (exec p evs).1.pollOffset off count, m ∈ (exec p evs).1.msgs :=
  ⟨SPart.pollOffset_consecutive _ off count (schedule_keeps_invariant p evs h),
   fun m hm => SPart.pollOffset_genuine _ off count m hm⟩

/-- Once a send has been acknowledged under wait-confirmation (its append atom has executed) every
later poll of that range includes it: later states only append, and a poll returns every retained
message of its window. -/
theorem ack_visible (p : SPart) (e : Ev) (later : List Ev) (m : Msg) (hm : m ∈ accepted p e)
    (off count : Nat) (h1 : off ≤ m.off) (h2 : m.off < off + count)
    (hlo : ∀ f, (exec (p.append e.now e.msgs) later).1.msgs.head? = some f → f.off ≤ off) :
    m ∈ (exec (p.append e.now e.msgs) later).1.pollOffset off count := by
  apply SPart.pollOffset_complete _ off count m _ h1 h2 hlo
  rw [final_is_interleaving]
  exact List.mem_append_left _ (List.mem_append_right _ hm)

/-- the storage model L1 executes an append atom exactly like the specification (any reachable
state, any batch): the atoms of the schedule are `Part.append` steps -/
theorem l1_atom_refines {cfg : Cfg} {p : Part} (hseg : 0 < cfg.segSize) (r : Reach cfg p) (e : Ev)
    (hsz : ∀ m ∈ e.msgs, 0 < m.size) (hts : ∀ m ∈ p.msgs, m.ts ≤ e.now) :
    ∃ p', p.append cfg e.now e.msgs = .ok p' ∧ Reach cfg p' ∧ abs p' = (abs p).append e.now e.msgs :=
  r.append_ok hseg hsz hts

/-! non-vacuity: two producers, three batches, one interleaving -/
def p0 : SPart := SPart.create exCfg none
def sched : List Ev := [⟨1, 10, [⟨11, 50, 1⟩, ⟨12, 50, 2⟩]⟩, ⟨2, 11, [⟨21, 50, 3⟩]⟩, ⟨1, 12, [⟨13, 50, 4⟩, ⟨14, 50, 5⟩]⟩]
example : (exec p0 sched).1.msgs.map (fun m => (m.off, m.id)) = [(0, 11), (1, 12), (2, 21), (3, 13), (4, 14)] := by decide
example : (exec p0 sched).2.map (fun l => l.map (·.off)) = [[0, 1], [2], [3, 4]] := by decide

end Iggy.Props.C12

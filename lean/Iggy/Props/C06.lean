/-
C06 — the catalogue is a sequential map of uniquely named and numbered entities.

In every reachable state (more generally in every structurally well-formed state, `Sys.CatWF`, which
every operation preserves — C05 `wf_step` / `catwf_step`): ids and names are unique within their
scope, lookup by name and lookup by numeric id agree, an update changes only what it names, a failed
command changes nothing, deleting an entity removes everything nested in it and never disturbs a
sibling, a valid create never fails and the created entity is found by the returned id and by its
name; no command sequence makes the replay panic.

Notation: `find? l k` is the lookup by numeric id in an (ascending) association list; `findStream`,
`findTopic`, `findGroup` resolve an `Ident` (numeric id or name); `viewY` is the catalogue as the
get / list calls show it.
-/
import Iggy.Sys.CatalogLemmas
namespace Iggy.Props.C06
open Iggy.Sys Iggy.Log

/-! ## uniqueness -/

/-- in a well-formed catalogue: stream ids ascend strictly and stream names are pairwise distinct; each
stream is stored under its own id; the same holds for the topics of a stream and the consumer groups
of a topic; the partitions of a topic are exactly `1..n`, and every group records `n` as its partition
count (the members' shares are C08's business) -/
theorem ids_names_unique {y : Sys} (h : y.CatWF) :
    y.streams.Pairwise (fun a b => a.1 < b.1) ∧ (y.streams.map (·.2.name)).Nodup ∧
    ∀ se ∈ y.streams, se.2.id = se.1 ∧
      se.2.topics.Pairwise (fun a b => a.1 < b.1) ∧ (se.2.topics.map (·.2.name)).Nodup ∧
      ∀ te ∈ se.2.topics, te.2.id = te.1 ∧ te.2.parts.map (·.1) = List.range' 1 te.2.parts.length ∧
        te.2.groups.Pairwise (fun a b => a.1 < b.1) ∧ (te.2.groups.map (·.2.name)).Nodup ∧
        ∀ ge ∈ te.2.groups, ge.2.id = ge.1 ∧ ge.2.nparts = te.2.parts.length :=
  h.unique

/-- … in particular in every state reachable from the empty server by any operations -/
theorem ids_names_unique_reachable (cfg : Cfg) (scfg : SCfg) (now : Nat) (ops : List Op) :
    let y := ops.foldl (fun y op => (step y op).1) (Sys.init cfg scfg now)
    y.streams.Pairwise (fun a b => a.1 < b.1) ∧ (y.streams.map (·.2.name)).Nodup ∧
    ∀ se ∈ y.streams, se.2.id = se.1 ∧
      se.2.topics.Pairwise (fun a b => a.1 < b.1) ∧ (se.2.topics.map (·.2.name)).Nodup ∧
      ∀ te ∈ se.2.topics, te.2.id = te.1 ∧ te.2.parts.map (·.1) = List.range' 1 te.2.parts.length ∧
        te.2.groups.Pairwise (fun a b => a.1 < b.1) ∧ (te.2.groups.map (·.2.name)).Nodup ∧
        ∀ ge ∈ te.2.groups, ge.2.id = ge.1 ∧ ge.2.nparts = te.2.parts.length :=
  (wf_run (wf_init cfg scfg now) ops).1.unique

/-! ## lookup by name and lookup by numeric id agree -/

theorem lookup_by_name_eq_by_id {y : Sys} (h : y.CatWF) (s : Stream) :
    y.findStream (.name s.name) = .ok s ↔ y.findStream (.num s.id) = .ok s :=
  h.findStream_name_iff_num s

/-- a resolved stream is the one stored under its id, and both of its own identifiers resolve to it -/
theorem lookup_canonical {y : Sys} (h : y.CatWF) {si : Ident} {s : Stream} (hs : y.findStream si = .ok s) :
    find? y.streams s.id = some s ∧ y.findStream (.num s.id) = .ok s ∧ y.findStream (.name s.name) = .ok s :=
  ⟨h.find_stream hs, (h.findStream_canon hs).1, (h.findStream_canon hs).2⟩

/-- topics of a stream of the catalogue -/
theorem topic_lookup_by_name_eq_by_id {y : Sys} (h : y.CatWF) {si : Ident} {s : Stream}
    (hs : y.findStream si = .ok s) (t : Topic) :
    s.findTopic (.name t.name) = .ok t ↔ s.findTopic (.num t.id) = .ok t :=
  (h.stream (h.findStream.1 hs).1).findTopic_name_iff_num t

/-- consumer groups of a topic of the catalogue -/
theorem group_lookup_by_name_eq_by_id {y : Sys} (h : y.CatWF) {si ti : Ident} {s : Stream} {t : Topic}
    (hs : y.findStream si = .ok s) (ht : s.findTopic ti = .ok t) (g : Group) :
    t.findGroup (.name g.name) = .ok g ↔ t.findGroup (.num g.id) = .ok g := by
  have hS := h.stream (h.findStream.1 hs).1
  exact (hS.topic (hS.findTopic.1 ht).1).findGroup_name_iff_num g

/-! ## a failed command changes nothing -/

/-- whatever the operation: if it answers with an error, the catalogue shown is unchanged, nothing is
journalled and no partition is affected (the allocator cursors and a polling member's rotation may
have moved — they are not visible) -/
theorem failed_changes_nothing {y : Sys} (h : y.WF) (op : Op) {e : String} (he : (step y op).2.1 = .err e) :
    viewY (step y op).1 = viewY y ∧ (step y op).1.journal = y.journal ∧ (step y op).2.2 = [] :=
  failed_changes_nothing_aux (step_spec h op) he

/-- the same from structural well-formedness alone, for everything but `restart` -/
theorem failed_changes_nothing' {y : Sys} (h : y.CatWF) (op : Op) (hop : ∀ cl, op ≠ .restart cl) {e : String}
    (he : (step y op).2.1 = .err e) :
    viewY (step y op).1 = viewY y ∧ (step y op).1.journal = y.journal ∧ (step y op).2.2 = [] :=
  failed_changes_nothing_aux (step_spec_of_catwf h op hop) he

/-- every step either leaves catalogue and journal alone, or appends exactly one journal entry and then
does not answer with an error -/
theorem journal_grows_by_at_most_one {y : Sys} (h : y.WF) (op : Op) :
    ((step y op).1.journal = y.journal ∧ viewY (step y op).1 = viewY y) ∨
    (∃ e, (step y op).1.journal = y.journal ++ [e] ∧ ∀ s, (step y op).2.1 ≠ .err s) := by
  have hs := step_spec h op
  generalize step y op = r at hs
  cases hs with
  | same _ hv hj => exact Or.inl ⟨hj, hv⟩
  | logged e ho hj =>
    refine Or.inr ⟨e, hj.journal, fun s hs => ?_⟩
    simp only at hs
    rw [hs] at ho
    cases ho

/-! ## an update changes only what it names -/

/-- `updateStream`: the addressed stream keeps its id, its topics (with every partition, message and
group) and only takes the new name; every other stream, and the memberships, are untouched -/
theorem update_stream_is_local {y : Sys} {si : Ident} {name : String} {s : Stream}
    (hs : y.findStream si = .ok s) (hok : (step y (.updateStream si name)).2.1 = .ok) :
    find? (step y (.updateStream si name)).1.streams s.id = some { s with name := name } ∧
    (∀ k, k ≠ s.id → find? (step y (.updateStream si name)).1.streams k = find? y.streams k) ∧
    (step y (.updateStream si name)).1.memberships = y.memberships := by
  generalize hr : step y (.updateStream si name) = r at hok ⊢
  simp only [step, hs] at hr
  revert hr
  refine ite_elim (P := fun x => x = r → _) (fun _ hr => by subst hr; cases hok) fun _ hr => ?_
  subst hr
  exact ⟨find?_insertAsc_self _ _ _, fun k hk => find?_insertAsc_ne _ _ hk, rfl⟩

/-- `updateTopic`: the addressed topic keeps its id, its groups and every partition with its messages
and offsets (the partitions' expiry setting follows the topic's); sibling topics, the stream's id and
name, the other streams and the memberships are untouched -/
theorem update_topic_is_local {y : Sys} {si ti : Ident} {name : String} {e : ExpiryArg} {m : MaxArg}
    {repl : Option Nat} {s : Stream} {t : Topic} (hs : y.findStream si = .ok s) (ht : s.findTopic ti = .ok t)
    (hok : (step y (.updateTopic si ti name e m repl)).2.1 = .ok) :
    ∃ s' t', find? (step y (.updateTopic si ti name e m repl)).1.streams s.id = some s' ∧
      (∀ k, k ≠ s.id → find? (step y (.updateTopic si ti name e m repl)).1.streams k = find? y.streams k) ∧
      s'.id = s.id ∧ s'.name = s.name ∧ find? s'.topics t.id = some t' ∧
      (∀ k, k ≠ t.id → find? s'.topics k = find? s.topics k) ∧
      t'.id = t.id ∧ t'.name = name ∧ t'.groups = t.groups ∧
      t'.parts = t.parts.map (fun pe => (pe.1, { pe.2 with expiry := t'.expiry })) ∧
      (step y (.updateTopic si ti name e m repl)).1.memberships = y.memberships := by
  -- the statement mentions the step four times: name it, so that it is unfolded and split once
  generalize hr : step y (.updateTopic si ti name e m repl) = r at hok ⊢
  simp only [step, Sys.withTopic, hs, ht] at hr
  split at hr
  · subst hr; cases hok
  · revert hr
    refine ite_elim (P := fun x => x = r → _) (fun _ hr => by subst hr; cases hok) fun _ hr => ?_
    subst hr
    exact ⟨_, _, find?_insertAsc_self _ _ _, fun k hk => find?_insertAsc_ne _ _ hk, rfl, rfl,
      find?_insertAsc_self _ _ _, fun k hk => find?_insertAsc_ne _ _ hk, rfl, rfl, rfl, rfl, rfl⟩

/-- a rename to a name no other stream carries never fails -/
theorem update_stream_succeeds {y : Sys} {si : Ident} {name : String} {s : Stream} (hs : y.findStream si = .ok s)
    (hname : ∀ e ∈ y.streams, e.2.name = name → e.1 = s.id) : (step y (.updateStream si name)).2.1 = .ok := by
  simp only [step, hs, if_neg (not_any_other (nm := Stream.name) hname)]

theorem update_topic_succeeds {y : Sys} {si ti : Ident} {name : String} {e : ExpiryArg} {m : MaxArg}
    {repl : Option Nat} {s : Stream} {t : Topic} {ms : Option Nat}
    (hs : y.findStream si = .ok s) (ht : s.findTopic ti = .ok t) (hmax : resolveMax y.cfg y.scfg m = .ok ms)
    (hname : ∀ te ∈ s.topics, te.2.name = name → te.1 = t.id) :
    (step y (.updateTopic si ti name e m repl)).2.1 = .ok := by
  simp only [step, Sys.withTopic, hs, ht, hmax, if_neg (not_any_other (nm := Topic.name) hname)]

/-! ## deletes cascade and never disturb a sibling -/

/-- `deleteStream` of a resolvable stream always succeeds; afterwards the stream is found neither by
id nor by name, no partition key and no membership of that stream remains, exactly its partitions
are reported deleted, and every other stream is untouched -/
theorem delete_stream_cascades {y : Sys} (h : y.CatWF) {si : Ident} {s : Stream} (hs : y.findStream si = .ok s) :
    ∃ y', step y (.deleteStream si) =
        (y', .ok, (s.topics.map (fun te => te.2.parts.map (fun pe => Effect.deleted (s.id, te.1, pe.1)))).flatten) ∧
      find? y'.streams s.id = none ∧
      (∀ k, k ≠ s.id → find? y'.streams k = find? y.streams k) ∧
      (∀ k ∈ y'.allKeys, k.1 ≠ s.id) ∧
      (∀ e ∈ y'.memberships, ∀ m ∈ e.2, m.1 ≠ s.id) ∧
      y'.findStream (.num s.id) = .error "stream_id_not_found" ∧
      y'.findStream (.name s.name) = .error "stream_name_not_found" := by
  obtain ⟨hm, _⟩ := h.findStream.1 hs
  refine ⟨?y', ?eq, ?rest⟩
  case eq => simp only [step, hs]; rfl
  refine ⟨find?_erase_self _ _, fun k hk => find?_erase_ne _ hk, fun k hk => ?_,
    fun e he m hm' => of_decide_eq_false (mem_dropMemberships he hm'), ?_, ?_⟩
  · obtain ⟨se, hse, te, _, pe, _, rfl⟩ := mem_allKeys.1 hk
    exact (mem_erase.1 hse).2
  · have : find? (erase y.streams s.id) s.id = none := find?_erase_self _ _
    simp only [Sys.findStream, Sys.journalAdd, Sys.dropMemberships, this]
  · have : (erase y.streams s.id).find? (fun e => e.2.name = s.name) = none :=
      List.find?_eq_none.2 fun e he hn =>
        (mem_erase.1 he).2 (h.scope.inj e (mem_erase.1 he).1 (s.id, s) hm (of_decide_eq_true hn))
    simp only [Sys.findStream, Sys.journalAdd, Sys.dropMemberships, this]

/-- `deleteTopic`: the topic is gone with all its partitions and memberships; the stream keeps its id
and name; sibling topics and other streams are untouched -/
theorem delete_topic_cascades {y : Sys} (h : y.CatWF) {si ti : Ident} {s : Stream} {t : Topic}
    (hs : y.findStream si = .ok s) (ht : s.findTopic ti = .ok t) :
    ∃ y' s', step y (.deleteTopic si ti) = (y', .ok, t.parts.map (fun pe => Effect.deleted (s.id, t.id, pe.1))) ∧
      find? y'.streams s.id = some s' ∧
      (∀ k, k ≠ s.id → find? y'.streams k = find? y.streams k) ∧
      s'.id = s.id ∧ s'.name = s.name ∧ find? s'.topics t.id = none ∧
      (∀ k, k ≠ t.id → find? s'.topics k = find? s.topics k) ∧
      (∀ k ∈ y'.allKeys, ¬ (k.1 = s.id ∧ k.2.1 = t.id)) ∧
      (∀ e ∈ y'.memberships, ∀ m ∈ e.2, ¬ (m.1 = s.id ∧ m.2.1 = t.id)) := by
  refine ⟨?y', { s with topics := erase s.topics t.id,
                        topicCursor := if t.id < s.topicCursor then t.id else s.topicCursor }, ?eq, ?rest⟩
  case eq => simp only [step, Sys.withTopic, hs, ht]; rfl
  case rest =>
    refine ⟨find?_insertAsc_self y.streams s.id _,
      fun k hk => find?_insertAsc_ne y.streams _ hk, rfl, rfl, find?_erase_self _ _,
      fun k hk => find?_erase_ne _ hk, ?_, ?_⟩
    · intro k hk
      obtain ⟨se, hse, te, hte, pe, _, rfl⟩ := mem_allKeys.1 hk
      rintro ⟨h1, h2⟩
      rcases mem_insertAsc hse with hse | ⟨_, hne⟩
      · subst hse
        exact (mem_erase.1 hte).2 h2
      · exact hne h.scope.asc h1
    · intro e he m hm' hc
      have := mem_dropMemberships he hm'
      simp [hc.1, hc.2] at this

/-- `deleteGroup`: the group is gone, its memberships are dropped and its stored offset is erased from
every partition of the topic — and nothing else: the topic keeps id, name, settings, the other groups
and every partition (only `grpOffs` loses the entry of that group, see `group_offsets_erased`);
sibling topics and other streams are untouched -/
theorem delete_group_cascades {y : Sys} {si ti gi : Ident} {s : Stream} {t : Topic} {g : Group}
    (hs : y.findStream si = .ok s) (ht : s.findTopic ti = .ok t) (hg : t.findGroup gi = .ok g) :
    ∃ y' s' t' effs, step y (.deleteGroup si ti gi) = (y', .ok, effs) ∧
      find? y'.streams s.id = some s' ∧
      (∀ k, k ≠ s.id → find? y'.streams k = find? y.streams k) ∧
      s'.id = s.id ∧ s'.name = s.name ∧ find? s'.topics t.id = some t' ∧
      (∀ k, k ≠ t.id → find? s'.topics k = find? s.topics k) ∧
      t'.id = t.id ∧ t'.name = t.name ∧ t'.expiry = t.expiry ∧ t'.maxSize = t.maxSize ∧ t'.repl = t.repl ∧
      find? t'.groups g.id = none ∧
      (∀ k, k ≠ g.id → find? t'.groups k = find? t.groups k) ∧
      t'.parts = t.parts.map (fun pe => (pe.1, { pe.2 with grpOffs := eraseK pe.2.grpOffs g.id })) ∧
      (∀ e ∈ y'.memberships, ∀ m ∈ e.2, m ≠ (s.id, t.id, g.id)) := by
  let t' : Topic := { t with
    groups := erase t.groups g.id, groupCursor := if g.id < t.groupCursor then g.id else t.groupCursor,
    parts := t.parts.map (fun pe => (pe.1, { pe.2 with grpOffs := eraseK pe.2.grpOffs g.id })) }
  refine ⟨?y', s.putTopic t', t', ?effs, ?eq, ?rest⟩
  case eq => simp only [step, Sys.withTopic, hs, ht, hg]; rfl
  case rest =>
    refine ⟨find?_insertAsc_self y.streams s.id _,
      fun k hk => find?_insertAsc_ne y.streams _ hk, rfl, rfl, find?_insertAsc_self s.topics t.id _,
      fun k hk => find?_insertAsc_ne s.topics _ hk, rfl, rfl, rfl, rfl, rfl, find?_erase_self _ _,
      fun k hk => find?_erase_ne _ hk, rfl, ?_⟩
    exact fun e he m hm' => of_decide_eq_false (mem_dropMemberships he hm')

/-- erasing a group's offset: that group has none afterwards, every other group's offset is intact.
(`Log.lookup` / `Log.eraseK` have the bodies of `find?` / `erase` at value type `Nat`, so the lemmas about
the latter apply as they are.) -/
theorem group_offsets_erased (l : List (Nat × Nat)) (k : Nat) :
    lookup (eraseK l k) k = none ∧ ∀ k', k' ≠ k → lookup (eraseK l k) k' = lookup l k' :=
  ⟨find?_erase_self l k, fun _ hk => find?_erase_ne l hk⟩

/-! ## create, then get; no spurious failure -/

/-- a `createStream` with a name no stream has and an explicit id no stream has — or no explicit id —
never fails (the allocator always finds a free id), and an explicit id is the one assigned -/
theorem create_stream_no_spurious_failure {y : Sys} {id : Option Nat} {name : String}
    (hname : ∀ e ∈ y.streams, e.2.name ≠ name) (hid : ∀ i, id = some i → find? y.streams i = none) :
    ∃ sid, (step y (.createStream id name)).2.1 = .okId sid ∧ (∀ i, id = some i → sid = i) := by
  obtain ⟨_, _, heq⟩ := step_createStream y id name rfl
  rw [heq, if_neg (not_any_of_fresh (nm := Stream.name) hname),
    if_neg (by rw [pickId_fresh hid]; simp)]
  exact ⟨_, rfl, fun _ => pickId_explicit _ _⟩

/-- after a successful `createStream` the (empty) stream is found by the returned id and by its name;
the id was free; no other stream was touched -/
theorem create_stream_then_get {y : Sys} (h : y.CatWF) {id : Option Nat} {name : String} {sid : Nat}
    (hout : (step y (.createStream id name)).2.1 = .okId sid) :
    (step y (.createStream id name)).1.findStream (.num sid) = .ok ⟨sid, name, [], 1⟩ ∧
    (step y (.createStream id name)).1.findStream (.name name) = .ok ⟨sid, name, [], 1⟩ ∧
    (∀ k, k ≠ sid → find? (step y (.createStream id name)).1.streams k = find? y.streams k) ∧
    find? y.streams sid = none := by
  have hwf := catwf_step h (.createStream id name) (fun cl hc => by cases hc)
  obtain ⟨_, _, heq⟩ := step_createStream y id name rfl
  rw [heq] at hout hwf ⊢
  generalize pickId y.streams y.streamCursor id = p at hout hwf ⊢
  obtain ⟨h1, h2, rfl⟩ := create_okId hout
  rw [if_neg h1, if_neg h2] at hwf ⊢
  have hm := mem_insertAsc_self y.streams p.1 (⟨p.1, name, [], 1⟩ : Stream)
  exact ⟨hwf.findStream.2 ⟨hm, rfl⟩, hwf.findStream.2 ⟨hm, rfl⟩, fun k hk => find?_insertAsc_ne _ _ hk,
    by simpa using h2⟩

theorem create_topic_no_spurious_failure {y : Sys} {si : Ident} {id : Option Nat} {name : String} {nparts : Nat}
    {e : ExpiryArg} {m : MaxArg} {repl : Option Nat} {s : Stream} {ms : Option Nat}
    (hs : y.findStream si = .ok s) (hmax : resolveMax y.cfg y.scfg m = .ok ms)
    (hname : ∀ te ∈ s.topics, te.2.name ≠ name) (hid : ∀ i, id = some i → find? s.topics i = none) :
    ∃ tid, (step y (.createTopic si id name nparts e m repl)).2.1 = .okId tid ∧ (∀ i, id = some i → tid = i) := by
  obtain ⟨_, _, heq⟩ := step_createTopic hs hmax id rfl name nparts e repl
  rw [heq, if_neg (not_any_of_fresh (nm := Topic.name) hname),
    if_neg (by rw [pickId_fresh hid]; simp)]
  exact ⟨_, rfl, fun _ => pickId_explicit _ _⟩

/-- after a successful `createTopic` the stream still resolves (same id and name) and the topic is found
in it by the returned id and by its name, with partitions `1..n` and no groups; sibling topics and
other streams are untouched -/
theorem create_topic_then_get {y : Sys} (h : y.CatWF) {si : Ident} {id : Option Nat} {name : String} {nparts : Nat}
    {e : ExpiryArg} {m : MaxArg} {repl : Option Nat} {s : Stream} {tid : Nat}
    (hs : y.findStream si = .ok s) (hout : (step y (.createTopic si id name nparts e m repl)).2.1 = .okId tid) :
    ∃ s' t', (step y (.createTopic si id name nparts e m repl)).1.findStream si = .ok s' ∧
      (step y (.createTopic si id name nparts e m repl)).1.findStream (.num s.id) = .ok s' ∧
      s'.id = s.id ∧ s'.name = s.name ∧
      s'.findTopic (.num tid) = .ok t' ∧ s'.findTopic (.name name) = .ok t' ∧
      t'.id = tid ∧ t'.name = name ∧ t'.parts.map (·.1) = List.range' 1 nparts ∧ t'.groups = [] ∧
      (∀ k, k ≠ tid → find? s'.topics k = find? s.topics k) ∧
      (∀ k, k ≠ s.id → find? (step y (.createTopic si id name nparts e m repl)).1.streams k = find? y.streams k) := by
  have hwf := catwf_step h (.createTopic si id name nparts e m repl) (fun cl hc => by cases hc)
  obtain ⟨hm, hsi⟩ := h.findStream.1 hs
  obtain ⟨maxSize, hmax⟩ : ∃ ms, resolveMax y.cfg y.scfg m = .ok ms := by
    cases hmax : resolveMax y.cfg y.scfg m with
    | ok ms => exact ⟨ms, rfl⟩
    | error _ => simp only [step, hs, hmax] at hout; cases hout
  obtain ⟨_, _, heq⟩ := step_createTopic hs hmax id rfl name nparts e repl
  rw [heq] at hout hwf ⊢
  generalize pickId s.topics s.topicCursor id = p at hout hwf ⊢
  obtain ⟨h1, h2, rfl⟩ := create_okId hout
  rw [if_neg h1, if_neg h2] at hwf ⊢
  have hS' := hwf.stream (mem_insertAsc_self y.streams s.id _)
  exact ⟨_, _, hwf.findStream.2 ⟨mem_insertAsc_self _ _ _, hsi⟩, hwf.findStream.2 ⟨mem_insertAsc_self _ _ _, rfl⟩,
    rfl, rfl, hS'.findTopic.2 ⟨mem_insertAsc_self _ _ _, rfl⟩, hS'.findTopic.2 ⟨mem_insertAsc_self _ _ _, rfl⟩,
    rfl, rfl, mkParts_keys _ _ _ _ _, rfl, fun k hk => find?_insertAsc_ne _ _ hk,
    fun k hk => find?_insertAsc_ne _ _ hk⟩

theorem create_group_no_spurious_failure {y : Sys} {si ti : Ident} {id : Option Nat} {name : String} {s : Stream}
    {t : Topic} (hs : y.findStream si = .ok s) (ht : s.findTopic ti = .ok t)
    (hname : ∀ ge ∈ t.groups, ge.2.name ≠ name) (hid : ∀ i, id = some i → find? t.groups i = none) :
    ∃ gid, (step y (.createGroup si ti id name)).2.1 = .okId gid ∧ (∀ i, id = some i → gid = i) := by
  obtain ⟨_, _, heq⟩ := step_createGroup hs ht id rfl name
  rw [heq, if_neg (not_any_of_fresh (nm := Group.name) hname),
    if_neg (by rw [pickId_fresh hid]; simp)]
  exact ⟨_, rfl, fun _ => pickId_explicit _ _⟩

/-- after a successful `createGroup` stream and topic still resolve by the identifiers used, the group is
found by the returned id and by its name, the topic keeps all its partitions and its other groups;
siblings are untouched -/
theorem create_group_then_get {y : Sys} (h : y.CatWF) {si ti : Ident} {id : Option Nat} {name : String} {s : Stream}
    {t : Topic} {gid : Nat} (hs : y.findStream si = .ok s) (ht : s.findTopic ti = .ok t)
    (hout : (step y (.createGroup si ti id name)).2.1 = .okId gid) :
    ∃ s' t', (step y (.createGroup si ti id name)).1.findStream si = .ok s' ∧ s'.findTopic ti = .ok t' ∧
      s'.id = s.id ∧ s'.name = s.name ∧ t'.id = t.id ∧ t'.name = t.name ∧ t'.parts = t.parts ∧
      t'.findGroup (.num gid) = .ok ⟨gid, name, t.parts.length, []⟩ ∧
      t'.findGroup (.name name) = .ok ⟨gid, name, t.parts.length, []⟩ ∧
      (∀ k, k ≠ gid → find? t'.groups k = find? t.groups k) ∧
      (∀ k, k ≠ t.id → find? s'.topics k = find? s.topics k) ∧
      (∀ k, k ≠ s.id → find? (step y (.createGroup si ti id name)).1.streams k = find? y.streams k) := by
  have hwf := catwf_step h (.createGroup si ti id name) (fun cl hc => by cases hc)
  obtain ⟨hm, hsi⟩ := h.findStream.1 hs
  obtain ⟨htm, hti⟩ := (h.stream hm).findTopic.1 ht
  obtain ⟨_, _, heq⟩ := step_createGroup hs ht id rfl name
  rw [heq] at hout hwf ⊢
  generalize pickId t.groups t.groupCursor id = p at hout hwf ⊢
  obtain ⟨h1, h2, rfl⟩ := create_okId hout
  rw [if_neg h1, if_neg h2] at hwf ⊢
  have hS' := hwf.stream (mem_insertAsc_self y.streams s.id _)
  have hT' := hS'.topic (mem_insertAsc_self s.topics t.id _)
  exact ⟨_, _, hwf.findStream.2 ⟨mem_insertAsc_self _ _ _, hsi⟩, hS'.findTopic.2 ⟨mem_insertAsc_self _ _ _, hti⟩,
    rfl, rfl, rfl, rfl, rfl, hT'.findGroup.2 ⟨mem_insertAsc_self _ _ _, rfl⟩,
    hT'.findGroup.2 ⟨mem_insertAsc_self _ _ _, rfl⟩, fun k hk => find?_insertAsc_ne _ _ hk,
    fun k hk => find?_insertAsc_ne _ _ hk, fun k hk => find?_insertAsc_ne _ _ hk⟩

/-- the allocator: with one more unit of fuel than there are entries, the allocated id is free -/
theorem alloc_id_fresh {α : Type} (l : List (Nat × α)) (cursor : Nat) :
    find? l (allocId (fun i => (find? l i).isSome) cursor (l.length + 1)).1 = none :=
  allocId_fresh_assoc l cursor

/-- no command sequence makes the model "panic": in every reachable state the journal replays without
hitting a panicking arm, so a restart is never refused -/
theorem never_panics (cfg : Cfg) (scfg : SCfg) (now : Nat) (ops : List Op) (cl : List (PKey × Nat)) :
    let y := ops.foldl (fun y op => (step y op).1) (Sys.init cfg scfg now)
    (replay y.journal).panicked = false ∧ (step y (.restart cl)).2.1 = .ok := by
  have h : (ops.foldl (fun y op => (step y op).1) (Sys.init cfg scfg now)).WF := wf_run (wf_init cfg scfg now) ops
  exact ⟨h.2.1, by rw [restart_eq h]⟩

/-! ## non-vacuity -/

def exCfg : Cfg := ⟨10, 1000, true, true, false⟩
def exSCfg : SCfg := ⟨false, none, some 5000⟩

def exOps : List Op := [
  .createStream (some 3) "s3", .createStream none "s1", .createStream none "s2",
  .createTopic (.name "s3") none "a" 2 .never .default none,
  .createTopic (.num 3) (some 9) "b" 1 .default (.custom 2000) (some 2),
  .createTopic (.num 1) none "a" 1 .never .unlimited none,          -- same topic name in another stream: fine
  .createGroup (.num 3) (.name "a") none "g",
  .createGroup (.num 3) (.name "b") none "g",                         -- same group name in another topic: fine
  .updateStream (.num 3) "s3",                                        -- rename to its own name: fine
  .updateTopic (.num 3) (.name "b") "c" .never .default none]

def exY : Sys := exOps.foldl (fun y op => (step y op).1) (Sys.init exCfg exSCfg 0)

example : viewY exY =
    [(1, ⟨1, "s1", [(1, ⟨1, "a", [1], none, none, 1, []⟩)]⟩), (2, ⟨2, "s2", []⟩),
     (3, ⟨3, "s3", [(1, ⟨1, "a", [1, 2], none, some 5000, 1, [(1, ⟨1, "g", 2⟩)]⟩),
                    (9, ⟨9, "c", [1], none, some 5000, 1, [(1, ⟨1, "g", 1⟩)]⟩)]⟩)] := by decide +kernel

/-- refused commands: taken name, taken id, other stream's name on rename, sibling's name on update,
unknown entity, invalid size — the view does not move -/
example : (step exY (.createStream none "s2")).2.1 = .err "stream_name_already_exists" := by decide +kernel
example : (step exY (.createStream (some 2) "x")).2.1 = .err "stream_id_already_exists" := by decide +kernel
example : (step exY (.updateStream (.num 1) "s2")).2.1 = .err "stream_name_already_exists" := by decide +kernel
example : (step exY (.updateTopic (.num 3) (.num 9) "a" .never .default none)).2.1 = .err "topic_name_already_exists" := by
  decide +kernel
example : (step exY (.createTopic (.num 2) none "t" 1 .never (.custom 5) none)).2.1 = .err "invalid_topic_size" := by
  decide +kernel
example : (step exY (.deleteTopic (.name "s2") (.num 1))).2.1 = .err "topic_id_not_found" := by decide +kernel
example : viewY (step exY (.createTopic (.num 3) (some 9) "z" 1 .never .default none)).1 = viewY exY := by decide +kernel

/-- lookup by name = lookup by id -/
example : (exY.findStream (.name "s3")).toOption.map (·.id) = some 3 ∧
    (exY.findStream (.num 3)).toOption.map (·.name) = some "s3" := by decide +kernel

/-- delete cascades; sibling streams stay -/
example : viewY (step exY (.deleteStream (.name "s3"))).1 =
    [(1, ⟨1, "s1", [(1, ⟨1, "a", [1], none, none, 1, []⟩)]⟩), (2, ⟨2, "s2", []⟩)] := by decide +kernel
example : (step exY (.deleteStream (.name "s3"))).1.allKeys = [(1, 1, 1)] := by decide +kernel
example : (step exY (.deleteStream (.name "s3"))).2.2.length = 3 := by decide +kernel

/-- create, then get, with an allocated id that skips the taken ones (cursor 3 is taken → 4) -/
example : (step exY (.createStream none "n")).2.1 = .okId 4 := by decide +kernel
example : ((step exY (.createStream none "n")).1.findStream (.name "n")).toOption.map (·.id) = some 4 := by decide +kernel

end Iggy.Props.C06

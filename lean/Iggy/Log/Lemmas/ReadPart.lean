/-
Partition-level read-by-offset: `Part.getByOffset` / `getFirst` / `getLast` / `getNext` agree with the
abstract `pollOffset` / `pollFirst` / `pollLast` / `pollNext`, on top of the segment-level read theorem
`Seg.getByOffset_eq` (`Lemmas/ReadSeg.lean`).
-/
import Iggy.Log.Lemmas.ReadSeg
import Iggy.Log.SpecProps
namespace Iggy.Log

/-- as every segment read is a scan (`Seg.getByOffset_scan`), a scan over several segments needs no
knowledge of where their boundaries are -/
theorem fromSegs_eq {cfg : Cfg} {l : List Seg} (hi : ∀ s ∈ l, s.Inv cfg)
    (off rem : Nat) : fromSegs l off rem = ((segsMsgs l).filter (fun m => off ≤ m.off)).take rem := by
  induction l generalizing rem with
  | nil => simp [fromSegs]
  | cons s rest ih =>
    rw [fromSegs]
    split
    · next hr => rw [hr, List.take_zero]
    · rw [segsMsgs_cons, List.filter_append, ← take_append_take, ← Seg.getByOffset_scan (hi s (by simp)),
        ← ih fun t ht => hi t (by simp [ht])]

theorem rposStart_none {l : List Seg} {off : Nat} (h : ∀ t ∈ l, off < t.start) (i best : Nat) :
    rposStart l off i best = best := by
  induction l generalizing i best with
  | nil => rfl
  | cons s r ih =>
    have hs := h s (by simp)
    rw [rposStart, ih (fun t ht => h t (by simp [ht])), if_neg (by omega)]

theorem rposStart_append {pre post : List Seg} {s : Seg} {off : Nat}
    (hs : s.start ≤ off) (hpost : ∀ t ∈ post, off < t.start) (i best : Nat) :
    rposStart (pre ++ s :: post) off i best = i + pre.length := by
  induction pre generalizing i best with
  | nil => simp [rposStart, rposStart_none hpost, hs]
  | cons a pre ih => simp only [List.cons_append, rposStart, ih, List.length_cons]; omega

/-- The segment path of `get_messages_by_offset`, for a poll that starts at or above the first
segment: `filter_segments_by_offsets` followed by `get_messages_from_segments`.  `hH`: the upper end
`hiO` used for selecting segments does not cut off wanted messages. -/
theorem fromSegs_filterSegs {cfg : Cfg} {a : Nat} {l : List Seg}
    (ht : tiled a l) (hi : ∀ s ∈ l, s.Inv cfg) (h0 : 0 < cfg.segSize) (hne : l ≠ []) {off : Nat}
    (ha : a ≤ off) (hiO count : Nat)
    (hH : ∀ m ∈ segsMsgs l, off ≤ m.off → m.off < off + count → m.off ≤ hiO) :
    fromSegs ((l.drop (rposStart l off 0 0)).filter (fun s => s.start ≤ hiO)) off count =
      (segsMsgs l).filter (fun m => off ≤ m.off ∧ m.off < off + count) := by
  obtain ⟨f, r, rfl⟩ := List.exists_cons_of_ne_nil hne
  have hsorted : (f :: r).Pairwise (fun x y => x.start ≤ y.start) :=
    (ht.pairwise hi h0).imp fun hxy => Nat.le_of_lt hxy.2
  -- the segments that start at or below `off` are a prefix `pre ++ [s]`, non-empty as `f` is one
  obtain ⟨post, hl, hpost⟩ := exists_filter_append (q := fun t : Seg => decide (t.start ≤ off))
    (hsorted.imp fun hxy => by simp only [decide_eq_true_eq]; omega)
  obtain ⟨pre, s, hpre⟩ := exists_snoc_of_ne_nil (l := (f :: r).filter (fun t => decide (t.start ≤ off)))
    (List.ne_nil_of_mem (List.mem_filter.2 ⟨List.mem_cons_self, by simpa using ht.1 ▸ ha⟩))
  have hs : s.start ≤ off := by
    have : s ∈ (f :: r).filter (fun t => decide (t.start ≤ off)) := hpre ▸ by simp
    simpa using (List.mem_filter.1 this).2
  rw [hpre, List.append_assoc, List.singleton_append] at hl
  rw [hl] at ht hi hH hsorted ⊢
  rw [rposStart_append hs fun t ht' => by simpa using hpost t ht', Nat.zero_add, List.drop_left]
  -- of the segments from `s` on, those that start at or below `hiO` are a prefix `keep`
  obtain ⟨rest, hk, hrest⟩ := exists_filter_append (q := fun t : Seg => decide (t.start ≤ hiO))
    ((List.pairwise_append.1 hsorted).2.1.imp fun hxy => by simp only [decide_eq_true_eq]; omega)
  generalize (s :: post).filter (fun t => decide (t.start ≤ hiO)) = keep at hk ⊢
  obtain ⟨tpre, -, t2⟩ := tiled_append.1 ht
  have hsa : s.start = a + (segsMsgs pre).length := t2.1
  rw [hk] at t2 hi hH ⊢
  have hcons := (tiled_append.1 t2).1.consecutive fun t ht' => (hi t (by simp [ht'])).offsets
  rw [fromSegs_eq fun t ht' => hi t (by simp [ht']), ← hcons.filter_window,
    Nat.max_eq_left (hsa ▸ hs)]
  simp only [segsMsgs_append, List.filter_append]
  have h1 : (segsMsgs pre).filter (fun m => off ≤ m.off ∧ m.off < off + count) = [] :=
    List.filter_eq_nil_iff.2 fun m hm => by
      have := tpre.bounds (fun t ht' => hi t (by simp [ht'])) m hm
      simp; omega
  have h2 : (segsMsgs rest).filter (fun m => off ≤ m.off ∧ m.off < off + count) = [] :=
    List.filter_eq_nil_iff.2 fun m hm => by
      obtain ⟨t, htr, hmt⟩ := mem_segsMsgs.1 hm
      have := ((hi t (by simp [htr])).offsets.bounds m hmt).1
      have : hiO < t.start := by simpa using hrest t htr
      have := hH m (by simp [hm])
      simp; omega
  rw [h1, h2]; simp

section
variable {cfg : Cfg} {p : Part} (h : p.Inv cfg)
include h

theorem Part.Inv.off_le_cur : ∀ m ∈ p.msgs, m.off ≤ p.cur := by
  intro m hm
  have := (h.msgs_consecutive.bounds m hm).2
  have := h.tiled'.2
  have := h.cur_eq
  omega

theorem Part.Inv.off_le_lastSegCur : ∀ m ∈ p.msgs, m.off ≤ p.lastSegCur := by
  intro m hm
  obtain ⟨init, last, hs⟩ := h.exists_snoc
  have hl : p.lastSegCur = last.cur := by simp [Part.lastSegCur, hs]
  have := (h.last_facts hs).2.1
  have := (h.segs last (by simp [hs])).cur
  have := h.off_le_cur m hm
  have := h.cur_eq
  omega

theorem readPart_pollOffset (off count : Nat) :
    (abs p).pollOffset off count =
      p.msgs.filter (fun m => max off p.firstStart ≤ m.off ∧ m.off < max off p.firstStart + count) :=
  SPart.pollOffset_eq_filter (p := abs p) h.msgs_consecutive off count

/-- `try_get_messages_from_cache` + `load_messages_from_cache`.  A stale cache does no harm: the
cached and the retained messages are one a suffix of the other, and what the longer one has in
addition lies below `lo`, which is at or above both `firstStart` and the first cached offset. -/
theorem Part.Inv.tryCache_eq {lo hi : Nat}
    (hlo : p.firstStart ≤ lo) {r : List Msg} (hr : p.tryCache lo hi = some r) :
    r = p.msgs.filter (fun m => lo ≤ m.off ∧ m.off < hi + 1) := by
  unfold Part.tryCache at hr
  split at hr
  · cases hr
  next c hc =>
  split at hr
  · cases hr
  next first hf =>
  split at hr
  · cases hr
  next h1 =>
  split at hr
  case isFalse => cases hr
  next h2 =>
  obtain ⟨hsuf, hcons, hlen⟩ := h.cache c hc
  have hk := hcons.head hf
  have hslice : r = c.filter (fun m => lo ≤ m.off ∧ m.off < hi + 1) := by
    have e : hi - first.off + 1 = hi + 1 - first.off :=
      (Nat.sub_add_comm (Nat.le_trans h2 (Nat.le_of_not_lt fun hh => h1 (Or.inl hh)))).symm
    rw [← Option.some.inj hr, hcons.filter_range, ← hk, ← List.drop_take, e, Nat.min_comm,
      (List.take_eq_take_iff (j := hi + 1 - first.off)).2 (by rw [Nat.min_assoc, Nat.min_self])]
  have hq : ∀ m : Msg, m.off < lo → decide (lo ≤ m.off ∧ m.off < hi + 1) = false :=
    fun m hm => by simp; omega
  have hpc := h.msgs_consecutive
  have hn := h.tiled'.2
  rw [hslice]
  rcases hsuf with ⟨x, hx⟩ | ⟨x, hx⟩
  · rw [← hx] at hpc hn ⊢
    rw [List.length_append] at hn
    exact (hpc.filter_suffix fun m hm => hq m (by omega)).symm
  · rw [← hx] at hcons hlen hk ⊢
    rw [List.length_append] at hcons hlen hk
    exact hcons.filter_suffix fun m hm => hq m (by omega)

end

/-- No hypothesis on `off` or on the cache: a poll below the first retained offset starts at the
earliest retained message (C14), and a stale cache does no harm (`Part.Inv.tryCache_eq`).  The server
without the fix in /repo violates this after retention: regression examples in Iggy/Log/Refine.lean. -/
theorem getByOffset_refines {cfg : Cfg} {p : Part} {off count : Nat}
    (h : p.Inv cfg) (hc : 0 < count) :
    p.getByOffset off count = (abs p).pollOffset off count := by
  rw [readPart_pollOffset h]
  unfold Part.getByOffset
  rw [if_neg (by simpa using h.segs_ne_nil)]
  dsimp only
  rw [← Part.firstStart]
  -- from here on the poll starts at or above the first segment
  have hlo : p.firstStart ≤ max off p.firstStart := Nat.le_max_right _ _
  generalize max off p.firstStart = off at hlo ⊢
  split
  · next hcur =>
    exact (List.filter_eq_nil_iff.2 fun m hm => by have := h.off_le_cur m hm; simp; omega).symm
  · -- every wanted message is at or below the computed end offset
    have hH : ∀ m ∈ p.msgs, off ≤ m.off → m.off < off + count → m.off ≤ p.endOffset off count := by
      intro m hm h1 h2
      have := h.off_le_lastSegCur m hm
      unfold Part.endOffset
      omega
    split
    · next r hr =>
      rw [h.tryCache_eq hlo hr]
      refine List.filter_congr fun m hm => ?_
      have := hH m hm
      rw [decide_eq_decide]
      unfold Part.endOffset at *
      omega
    · have hs : fromSegs (p.filterSegs off (p.endOffset off count)) off count = _ :=
        fromSegs_filterSegs h.tiled'.1 h.segs h.segSize h.segs_ne_nil hlo _ count hH
      rw [Part.msgs_eq, ← hs]
      split
      · next he => rw [he]; rfl
      · next s he => rw [he]; simp [fromSegs, Nat.ne_of_gt hc]
      · rfl

theorem getFirst_refines {cfg : Cfg} {p : Part} {count : Nat}
    (h : p.Inv cfg) (hc : 0 < count) : p.getFirst count = (abs p).pollFirst count :=
  getByOffset_refines h hc

theorem getLast_refines {cfg : Cfg} {p : Part} {count : Nat}
    (h : p.Inv cfg) (hc : 0 < count) : p.getLast count = (abs p).pollLast count := by
  unfold Part.getLast SPart.pollLast
  show p.getByOffset _ _ = (abs p).pollOffset (p.next - min count p.next) (min count p.next)
  cases hi : p.shouldInc with
  | true =>
    have hn : p.next = p.cur + 1 := by simp [Part.next, hi]
    rw [Nat.add_comm 1, ← hn]
    exact getByOffset_refines h (by omega)
  | false =>
    rw [getByOffset_refines h (by omega), readPart_pollOffset h, readPart_pollOffset h,
      h.msgs_nil_of_not_inc hi, List.filter_nil, List.filter_nil]

/-- `get_next_messages`; the model's shortcut for a stored offset equal to `current_offset` agrees
with the specification because no retained message lies beyond `current_offset`. -/
theorem getNext_refines {cfg : Cfg} {p : Part} {grp : Bool} {cid count : Nat}
    (h : p.Inv cfg) (hc : 0 < count) :
    p.getNext grp cid count = (abs p).pollNext grp cid count := by
  unfold Part.getNext SPart.pollNext
  show _ = (match lookup (if grp then p.grpOffs else p.consOffs) cid with
    | none => (abs p).pollFirst count
    | some o => (abs p).pollOffset (o + 1) count)
  cases hl : lookup (if grp then p.grpOffs else p.consOffs) cid with
  | none => exact getFirst_refines h hc
  | some o =>
    simp only []
    split
    · next ho =>
      rw [readPart_pollOffset h]
      exact (List.filter_eq_nil_iff.2 fun m hm => by have := h.off_le_cur m hm; simp; omega).symm
    · exact getByOffset_refines h hc

end Iggy.Log

/-
C11 — the state journal is always loadable, and the loader accepts nothing but a prefix of the true
history.

Model: Iggy/Journal/Model.lean (entry layout, the loader `load`, one journal append `FState.apply`),
validated byte for byte against the server by differential testing. The checksum `ck` and the command
check `valid` are parameters of every statement. Definitions used below (Iggy/Journal/Lemmas.lean):
`Entry.WF` (every fixed-width field in range), `Consecutive es` (the entry at position `i` carries
index `i`), `Good ck valid e` (in range, stored checksum = `ck` of the content, valid command),
`WFJournal ck valid es` (`Consecutive` and every entry `Good`), `Apply` (one request: timestamp, user,
command code, payload, and whether its write fails), `run` (a sequence of requests), `written` (the
entries they write), `offsetOf es j` (byte offset at which entry `j` starts), `Entry.lenFieldPos`
(offsets of the two length fields inside an entry), `Burst ck` (the checksum detects every single-byte
change — an assumption about CRC-32, always stated as an explicit hypothesis).
-/
import Iggy.Journal.Lemmas
namespace Iggy.Props.C11
open Iggy.Journal

/-! ## 0. bytes and the one-entry round trip -/

theorem leBytes_length (k n : Nat) : (leBytes k n).length = k := Iggy.Journal.leBytes_length k n

theorem leVal_leBytes (k n : Nat) : leVal (leBytes k n) = n % 256 ^ k := Iggy.Journal.leVal_leBytes k n

theorem leVal_le32 {n : Nat} (h : n < 2 ^ 32) : leVal (le32 n) = n := Iggy.Journal.leVal_le32 h

theorem leVal_le64 {n : Nat} (h : n < 2 ^ 64) : leVal (le64 n) = n := Iggy.Journal.leVal_le64 h

/-- Reading one entry back from its encoding, whatever bytes follow it, returns exactly that entry and
leaves exactly the following bytes. -/
theorem parseOne_encode {e : Entry} (h : e.WF) (rest : Bytes) :
    parseOne (e.encode ++ rest) = some (e, rest) := Iggy.Journal.parseOne_encode h rest

/-- Conversely, whatever the reader accepts as one entry is an in-range entry whose encoding is exactly
the bytes consumed. -/
theorem parseOne_sound {b rest : Bytes} {e : Entry} (h : parseOne b = some (e, rest)) :
    b = e.encode ++ rest ∧ e.WF := Iggy.Journal.parseOne_sound h

/-! ## 1. round trip of a whole journal -/

/-- A file made of in-range entries with indices 0, 1, 2, … in order, each with a matching checksum and
a valid command, loads to exactly those entries. -/
theorem load_roundtrip {ck : Bytes → Nat} {valid : Bytes → Bool} {es : List Entry}
    (h : ∀ e ∈ es, e.WF ∧ valid e.cmd = true ∧ e.checksum = ck e.ckInput) (hc : Consecutive es) :
    load ck valid (encodeAll es) = .ok es :=
  load_encodeAll ⟨hc, fun e he => ⟨(h e he).1, (h e he).2.2, (h e he).2.1⟩⟩

/-! ## 2. whatever loads is a well-formed journal -/

/-- the loader always answers: an error or a list of entries (it is a total function; in particular its
iteration bound, the file length, is never exhausted with input left over — see `load_sound`: an
accepted file is accounted for to the last byte) -/
theorem load_err_or_ok (ck : Bytes → Nat) (valid : Bytes → Bool) (b : Bytes) :
    (∃ err, load ck valid b = .error err) ∨ ∃ es, load ck valid b = .ok es := by
  cases h : load ck valid b with
  | error err => exact .inl ⟨err, rfl⟩
  | ok es => exact .inr ⟨es, rfl⟩

/-- If a byte string loads, it is — to the last byte — the encoding of the entries returned, their
indices are 0, 1, 2, … in order, and each of them has a checksum that matches its content, a valid
command and in-range fields. No byte string is ever accepted as anything other than the journal it
literally encodes. -/
theorem load_sound {ck : Bytes → Nat} {valid : Bytes → Bool} {b : Bytes} {es : List Entry}
    (h : load ck valid b = .ok es) :
    b = encodeAll es ∧ Consecutive es ∧
      ∀ e ∈ es, e.checksum = ck e.ckInput ∧ valid e.cmd = true ∧ e.WF := by
  obtain ⟨hb, hc, hg⟩ := load_sound' h
  exact ⟨hb, hc, fun e he => ⟨(hg e he).ck, (hg e he).valid, (hg e he).wf⟩⟩

theorem load_ok_iff {ck : Bytes → Nat} {valid : Bytes → Bool} {b : Bytes} {es : List Entry} :
    load ck valid b = .ok es ↔ b = encodeAll es ∧ WFJournal ck valid es := Iggy.Journal.load_ok_iff

/-- a file has at most one reading as a list of in-range entries -/
theorem encodeAll_injective {es es' : List Entry} (h : ∀ e ∈ es, e.WF) (h' : ∀ e ∈ es', e.WF)
    (heq : encodeAll es = encodeAll es') : es = es' := encodeAll_inj h h' heq

/-! ## 3. every sequence of applies leaves a well-formed, loadable journal -/

/-- Starting from an empty journal, after any sequence of requests with an arbitrary pattern of failed
writes (the `fail` flags), the file is the encoding of a list of entries with indices 0, 1, 2, … in
file order, each carrying the checksum of its content; the entry counter equals their number; and
the commands recorded are exactly those of the requests whose write succeeded, in order.

Concurrency: index allocation and the append happen under one lock (fix aac4330) and a failed append
gives its index back, so every concurrent execution is equivalent to the sequence of `apply` calls in
lock-acquisition order. The theorem quantifies over all lists, hence over all such orders and all
failure patterns. -/
theorem applies_wellformed (ck : Bytes → Nat) (version : Nat) (as : List Apply) :
    ∃ es, (run ck version {} as).file = encodeAll es ∧ Consecutive es ∧
      (∀ e ∈ es, e.checksum = ck e.ckInput) ∧ es.length = (run ck version {} as).entriesCount ∧
      es.map Entry.cmd = (as.filter (fun a => !a.fail)).map Apply.cmd := by
  obtain ⟨hh, hc, hk⟩ := run_wellformed ck version holds_init (wfJournal_nil ck fun _ => true).1
    (fun _ h => nomatch h) as
  exact ⟨written ck version 0 as, hh.file, hc, hk, hh.count.symm, written_cmds ck version 0 as⟩

/-- If moreover the checksum is a 32-bit value, the version and every successfully written request fit
their fields and carry a command the loader considers valid (and at most 2^64 requests were made),
the file loads, and loads to exactly the entries written: the server can start from it. -/
theorem applies_loadable {ck : Bytes → Nat} {valid : Bytes → Bool} {version : Nat} (as : List Apply)
    (hck : ∀ b, ck b < 2 ^ 32) (hv : version < 2 ^ 32)
    (hin : ∀ a ∈ as, a.fail = false → a.InRange ∧ valid a.cmd = true) (hn : as.length ≤ 2 ^ 64) :
    load ck valid (run ck version {} as).file = .ok (written ck version 0 as) := by
  rw [(holds_run ck version as holds_init).file]
  exact load_encodeAll (run_loadable holds_init (wfJournal_nil ck valid) as hck hv hin (by simpa using hn))

/-- Under the same hypotheses the entries written form a journal in the sense of the tampering theorems
below (`WFJournal`), and the file is its encoding: sections 4–6 apply to every file the server can
produce. -/
theorem applies_wfjournal {ck : Bytes → Nat} {valid : Bytes → Bool} {version : Nat} (as : List Apply)
    (hck : ∀ b, ck b < 2 ^ 32) (hv : version < 2 ^ 32)
    (hin : ∀ a ∈ as, a.fail = false → a.InRange ∧ valid a.cmd = true) (hn : as.length ≤ 2 ^ 64) :
    WFJournal ck valid (written ck version 0 as) ∧
      (run ck version {} as).file = encodeAll (written ck version 0 as) :=
  ⟨run_loadable holds_init (wfJournal_nil ck valid) as hck hv hin (by simpa using hn),
    (holds_run ck version as holds_init).file⟩

/-- The same after a restart: from any state that holds a loaded journal `es0` (file, counter and
current index as the loader leaves them), any further sequence of requests leaves a file that loads
to `es0` followed by the newly written entries — nothing already in the journal is ever altered. -/
theorem applies_loadable_from {ck : Bytes → Nat} {valid : Bytes → Bool} {version : Nat} {s : FState}
    {es0 : List Entry} (hs : Holds s es0) (hw : WFJournal ck valid es0) (as : List Apply)
    (hck : ∀ b, ck b < 2 ^ 32) (hv : version < 2 ^ 32)
    (hin : ∀ a ∈ as, a.fail = false → a.InRange ∧ valid a.cmd = true)
    (hn : es0.length + as.length ≤ 2 ^ 64) :
    load ck valid (run ck version s as).file = .ok (es0 ++ written ck version es0.length as) := by
  rw [(holds_run ck version as hs).file]
  exact load_encodeAll (run_loadable hs hw as hck hv hin hn)

theorem failed_apply_no_change (ck : Bytes → Nat) (s : FState) (ts user code : Nat) (payload : Bytes)
    (version : Nat) : s.apply ck ts user code payload version true = (s, false) := rfl

/-! ## 4. truncation -/

/-- If the first `k` bytes of a well-formed journal file load at all, the result is a prefix of the true
history and the cut fell exactly on an entry boundary (or beyond the end of the file). -/
theorem load_prefix {ck : Bytes → Nat} {valid : Bytes → Bool} {es es' : List Entry}
    (h : WFJournal ck valid es) {k : Nat} (hl : load ck valid ((encodeAll es).take k) = .ok es') :
    es' <+: es ∧ min k (encodeAll es).length = offsetOf es es'.length := load_take_ok h hl

theorem cut_inside_entry_reported {ck : Bytes → Nat} {valid : Bytes → Bool} {es : List Entry}
    (h : WFJournal ck valid es) {j k : Nat} (hj : j < es.length) (h1 : offsetOf es j < k)
    (h2 : k < offsetOf es (j + 1)) : load ck valid ((encodeAll es).take k) = .error .short := by
  have hsucc := offsetOf_succ es hj
  have hoff : (encodeAll (es.take j)).length = offsetOf es j := rfl
  have htake : (encodeAll es).take k = encodeAll (es.take j) ++ es[j].encode.take (k - offsetOf es j) := by
    rw [encodeAll_split es hj, List.take_append, List.take_of_length_le (by omega), hoff, List.take_append,
      show k - offsetOf es j - es[j].encode.length = 0 by omega, List.take_zero, List.append_nil]
  have hpne : es[j].encode.take (k - offsetOf es j) ≠ [] := fun hn =>
    (List.take_eq_nil_iff.mp hn).elim (by omega) es[j].encode_ne_nil
  rw [htake, load_spec (fun e he => ((h.take j).2 e he).wf)
    (.inr (parseOne_strict_prefix (h.2 _ (List.getElem_mem hj)).wf
      (List.take_append_drop (k - offsetOf es j) es[j].encode) (by rw [Ne, List.drop_eq_nil_iff]; omega))),
    (h.take j).check, Option.elim_none, if_neg hpne]

/-- A cut exactly at an entry boundary — the loss of a whole suffix of entries — goes unnoticed and
yields the corresponding prefix of the history: the one undetectable change. -/
theorem cut_at_boundary_is_prefix {ck : Bytes → Nat} {valid : Bytes → Bool} {es : List Entry}
    (h : WFJournal ck valid es) (j : Nat) :
    load ck valid ((encodeAll es).take (offsetOf es j)) = .ok (es.take j) := by
  have hsplit : encodeAll es = encodeAll (es.take j) ++ encodeAll (es.drop j) := by
    rw [← encodeAll_append, List.take_append_drop]
  have : (encodeAll es).take (offsetOf es j) = encodeAll (es.take j) := by
    conv => lhs; rw [hsplit]
    exact List.take_left' rfl
  rw [this]
  exact load_encodeAll (h.take j)

/-! ## 5. whole-entry tampering (no assumption on the checksum) -/

/-- Any file assembled from whole entries of the true journal — entries removed from the middle,
duplicated, reordered, a suffix dropped — either fails to load or is a prefix of the true history,
and then loads to exactly that prefix. -/
theorem whole_entry_tamper {ck : Bytes → Nat} {valid : Bytes → Bool} {es l l' : List Entry}
    (h : WFJournal ck valid es) (hsub : ∀ e ∈ l, e ∈ es) (hl : load ck valid (encodeAll l) = .ok l') :
    l' = l ∧ l <+: es := by
  obtain ⟨hb, hw'⟩ := load_sound' hl
  have : l = l' := encodeAll_inj (fun e he => (h.2 e (hsub e he)).wf) (fun e he => (hw'.2 e he).wf) hb
  subst this
  exact ⟨rfl, prefix_of_consecutive_subset h.1 hw'.1 hsub⟩

theorem whole_entry_tamper_reported {ck : Bytes → Nat} {valid : Bytes → Bool} {es l : List Entry}
    (h : WFJournal ck valid es) (hsub : ∀ e ∈ l, e ∈ es) (hnp : ¬ l <+: es) :
    ∃ err, load ck valid (encodeAll l) = .error err :=
  ⟨.corrupted, (load_good fun e he => h.2 e (hsub e he)).2
    fun hc => hnp (prefix_of_consecutive_subset h.1 hc hsub)⟩

theorem entry_determined_by_index {es : List Entry} (h : Consecutive es) {e : Entry} (he : e ∈ es) :
    ∃ hi : e.index < es.length, es[e.index] = e := getElem_index_of_mem h he

/-- every outcome covered by 4 and 5 is classified by the test judge's `verdict` as an error or a
prefix, never as a different history -/
theorem verdict_prefix {ck : Bytes → Nat} {valid : Bytes → Bool} {orig es : List Entry} {b : Bytes}
    (hl : load ck valid b = .ok es) (hp : es <+: orig) :
    verdict ck valid orig b = .prefix' es.length := by
  obtain ⟨t, rfl⟩ := hp
  unfold verdict
  rw [hl]
  have hz : ∀ (l t : List Entry), ((l.zip (l ++ t)).all fun p => decide (p.1.index = p.2.index ∧ p.1.cmd = p.2.cmd)) = true := by
    intro l t
    induction l with
    | nil => simp
    | cons x l ih => simpa using ih
  simp only [List.length_append, Nat.le_add_right, true_and, hz, if_true]

/-! ## 6. a single changed byte -/

/-- Entry level, every position (length fields included): if one byte of an encoded entry is changed
and the reader still frames an entry of the same total length at that place, the entry it reads fails
its checksum — provided the checksum detects single-byte changes (`Burst`). -/
theorem entry_byte_change_detected {ck : Bytes → Nat} (hb : Burst ck) {e e' : Entry} (h : e.WF)
    (hk : e.checksum = ck e.ckInput) {i : Nat} {v : UInt8} (hne : e.encode.set i v ≠ e.encode)
    {rest rest' : Bytes} (hp : parseOne (e.encode.set i v ++ rest) = some (e', rest'))
    (hlen : rest'.length = rest.length) : e'.checksum ≠ ck e'.ckInput := by
  obtain ⟨heq, hw'⟩ := parseOne_sound hp
  have hl : (e.encode.set i v).length = e'.encode.length := by
    have := congrArg List.length heq
    simp only [List.length_append] at this
    omega
  exact encode_set_checksum hb h.checksum hw'.checksum hk (List.append_inj heq hl).1.symm hne

/-- File level (partial: every position except the two length fields). In a well-formed journal file,
changing the byte at offset `o` of entry `j` to a different value makes the load fail — at entry `j`,
with a non-consecutive-index error or a checksum error, never accepting a different entry `j` —
provided `o` is not inside the context-length or payload-length field of that entry. Covered are:
index, term, leader, version, flags, timestamp, user, the stored checksum itself, the context bytes,
the command code and the payload bytes.

Not covered: the eight bytes of the two length fields. Changing one of them re-frames the rest of the
file, so the entry read there has a different length and `Burst` says nothing about its checksum; see
`length_field_tamper_counterexample` for a checksum satisfying `Burst` that lets such a change through.
For the real CRC-32 these positions are covered by the exhaustive single-byte mutation sweep of the
differential test, not by this theorem. -/
theorem byte_tamper_partial {ck : Bytes → Nat} {valid : Bytes → Bool} (hb : Burst ck) {es : List Entry}
    (h : WFJournal ck valid es) {j o : Nat} (hj : j < es.length) (ho : o < es[j].encode.length)
    (hl : ¬ es[j].lenFieldPos o) {v : UInt8}
    (hne : (encodeAll es).set (offsetOf es j + o) v ≠ encodeAll es) :
    load ck valid ((encodeAll es).set (offsetOf es j + o) v) = .error .corrupted ∨
    load ck valid ((encodeAll es).set (offsetOf es j + o) v) = .error .badChecksum := by
  have hgj := h.2 _ (List.getElem_mem hj)
  have hset := encodeAll_set es hj ho v
  obtain ⟨e₂, hw₂, he₂⟩ := exists_encode_eq_encode_set hgj.wf ho hl v
  have hck₂ : e₂.checksum ≠ ck e₂.ckInput :=
    encode_set_checksum hb hgj.wf.checksum hw₂.checksum hgj.ck he₂
      fun hc => hne (by rw [hset, hc, ← encodeAll_split es hj])
  have hwf : ∀ e ∈ es.take j ++ e₂ :: es.drop (j + 1), e.WF := fun e he =>
    (List.mem_append.mp he).elim (fun he => (h.2 e (List.mem_of_mem_take he)).wf) fun he =>
      (List.mem_cons.mp he).elim (fun he => he ▸ hw₂) fun he => (h.2 e (List.mem_of_mem_drop he)).wf
  -- the changed file encodes `es.take j ++ e₂ :: es.drop (j + 1)`: the checks pass on the first `j` entries
  -- and stop at `e₂`, on its index or on its checksum
  rw [hset, ← he₂, ← encodeAll_cons, ← encodeAll_append, ← List.append_nil (encodeAll _),
    load_spec hwf (.inl rfl), check_append, (h.take j).check, Option.none_or, check, check1]
  by_cases hidx : e₂.index = 0 + (es.take j).length
  · exact .inr (by rw [if_neg (not_not_intro hidx), if_pos fun hc => hck₂ hc.symm]; rfl)
  · exact .inl (by rw [if_pos hidx]; rfl)

/-- every byte position of the file is some offset `o` of some entry `j` (so the positions excluded
from `byte_tamper_partial` are exactly the length fields) -/
theorem position_in_entry (es : List Entry) {i : Nat} (hi : i < (encodeAll es).length) :
    ∃ j o, ∃ hj : j < es.length, o < es[j].encode.length ∧ i = offsetOf es j + o := by
  obtain ⟨j, o, hj, ho, rfl⟩ := flatten_position (L := es.map Entry.encode) hi
  rw [List.length_map] at hj
  exact ⟨j, o, hj, by simpa using ho, by simp [offsetOf, encodeAll, List.map_take]⟩

/-! ## counterexample: the length fields need more than `Burst` -/

/-- The byte sum modulo 256 detects every single-byte change (`Burst`), yet with it a one-byte change
of a payload-length field is accepted as a DIFFERENT history: the first entry swallows the head of
the second, whose payload contains a forged entry that is then read as entry 1. So the exclusion of
the length fields in `byte_tamper_partial` cannot be lifted under `Burst` alone; for CRC-32 the same
construction needs a 32-bit collision (the checksum is not cryptographic). -/
theorem length_field_tamper_counterexample :
    Burst Ex.ckSum ∧
    load Ex.ckSum (fun _ => true) Ex.cxFile = .ok Ex.cxEntries ∧
    Ex.cxEntries = [Ex.cxE0, Ex.cxE1] ∧ Ex.cxE0.lenFieldPos 56 ∧
    load Ex.ckSum (fun _ => true) (Ex.cxFile.set 56 62) = .ok Ex.cxAccepted ∧
    ¬ Ex.cxAccepted <+: Ex.cxEntries ∧
    verdict Ex.ckSum (fun _ => true) Ex.cxEntries (Ex.cxFile.set 56 62) = .different := by
  have hload : load Ex.ckSum (fun _ => true) (Ex.cxFile.set 56 62) = .ok Ex.cxAccepted := by
    decide +kernel
  refine ⟨Ex.ckSum_burst, ?_, rfl, .inr ⟨by decide, by decide⟩, hload, by decide +kernel,
    by rw [verdict, hload]; decide +kernel⟩
  exact applies_loadable Ex.cxOps (fun b => Nat.lt_trans (Ex.ckSum_lt b) (by decide)) (by decide)
    (by decide) (by decide)

/-! ## 7. non-vacuity: a concrete journal with the real CRC-32

`Ex.ops`: four requests, the second of which fails; `Ex.state` the resulting journal state (version 5),
`Ex.entries = [Ex.e0, Ex.e1, Ex.e2]` the three entries written. What the theorems above decide is shown
as an instance of them; the kind of error after a byte change is checked by kernel evaluation. -/

theorem Ex.wf : WFJournal crc32 (fun _ => true) Ex.entries ∧ Ex.state.file = encodeAll Ex.entries :=
  applies_wfjournal Ex.ops crc32_lt (by decide) (by decide) (by decide)

theorem Ex.reported {l : List Entry} (hs : l ⊆ [Ex.e0, Ex.e1, Ex.e2]) {i : Nat} (hi : i < l.length)
    (hne : l[i].index ≠ i) : load crc32 (fun _ => true) (encodeAll l) = .error .corrupted :=
  (load_good fun e he => Ex.wf.1.2 e (hs he)).2 fun h => hne (h i hi)

/-- the failed write left no trace: three entries, indices 0, 1, 2 -/
example : Ex.entries = [Ex.e0, Ex.e1, Ex.e2] ∧ Ex.state.entriesCount = 3 ∧ Ex.state.currentIndex = 2 ∧
    Ex.state.file = encodeAll Ex.entries ∧ Ex.state.file.length = 186 :=
  ⟨rfl, rfl, rfl, Ex.wf.2, by decide +kernel⟩

example : load crc32 (fun _ => true) Ex.state.file = .ok Ex.entries := load_ok_iff.mpr ⟨Ex.wf.2, Ex.wf.1⟩

/-- the hypotheses of `byte_tamper_partial`, `load_prefix`, `whole_entry_tamper` are satisfiable -/
example : WFJournal crc32 (fun _ => true) Ex.entries := Ex.wf.1

/-- cut inside the second entry: short read -/
example : load crc32 (fun _ => true) (Ex.state.file.take 100) = .error .short :=
  Ex.wf.2 ▸ cut_inside_entry_reported Ex.wf.1 (j := 1) (by decide) (by decide) (by decide +kernel)

/-- cut at the boundary after the second entry: the two-entry prefix -/
example : load crc32 (fun _ => true) (Ex.state.file.take 124) = .ok [Ex.e0, Ex.e1] := by
  rw [Ex.wf.2, show 124 = offsetOf Ex.entries 2 by decide +kernel]
  exact cut_at_boundary_is_prefix Ex.wf.1 2

/-- reordered -/
example : load crc32 (fun _ => true) (encodeAll [Ex.e1, Ex.e0, Ex.e2]) = .error .corrupted :=
  Ex.reported (by simp) (i := 0) (by decide) (by decide)

/-- an entry removed from the middle -/
example : load crc32 (fun _ => true) (encodeAll [Ex.e0, Ex.e2]) = .error .corrupted :=
  Ex.reported (by simp) (i := 1) (by decide) (by decide)

/-- an entry duplicated -/
example : load crc32 (fun _ => true) (encodeAll [Ex.e0, Ex.e1, Ex.e1, Ex.e2]) = .error .corrupted :=
  Ex.reported (by simp) (i := 2) (by decide) (by decide)

/-- the first entry removed -/
example : load crc32 (fun _ => true) (encodeAll [Ex.e1, Ex.e2]) = .error .corrupted :=
  Ex.reported (by simp) (i := 0) (by decide) (by decide)

-- the kernel leaves the accumulator of `foldl` unevaluated: the steps of `crc32` nest once per byte
set_option maxRecDepth 2000

/-- one payload byte changed -/
example : load crc32 (fun _ => true) (Ex.state.file.set 61 0xFF) = .error .badChecksum := by decide +kernel

/-- one byte of an index changed -/
example : load crc32 (fun _ => true) (Ex.state.file.set 63 2) = .error .corrupted := by decide +kernel

/-- one byte of a stored checksum changed -/
example : load crc32 (fun _ => true) (Ex.state.file.set 107 0) = .error .badChecksum := by decide +kernel

end Iggy.Props.C11

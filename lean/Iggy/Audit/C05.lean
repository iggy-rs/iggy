import Iggy.Props.C05
#print axioms Iggy.Props.C05.wf_init
#print axioms Iggy.Props.C05.wf_step
#print axioms Iggy.Props.C05.catwf_step
#print axioms Iggy.Props.C05.wf_reachable
#print axioms Iggy.Props.C05.replay_eq_runtime
#print axioms Iggy.Props.C05.step_journal
#print axioms Iggy.Props.C05.restart_never_fails
#print axioms Iggy.Props.C05.restart_preserves_view
#print axioms Iggy.Props.C05.restart_keeps_journal
#print axioms Iggy.Props.C05.restart_keeps_partitions
#print axioms Iggy.Props.C05.restart_effects
#print axioms Iggy.Props.C05.restart_keeps_data
#print axioms Iggy.Props.C05.restarts_preserve_view
#print axioms Iggy.Props.C05.restart_after_any_history
#print axioms Iggy.Props.C05.exFinal_view

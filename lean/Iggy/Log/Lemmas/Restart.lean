/-
What `Seg.load` / `Part.load` build from the files of clean segments (crash recovery rests on it too), and
its instance `Part.restart` = `Part.save` then `Part.load` of the files: a graceful shutdown + restart keeps
the invariant and the abstract state, except that the dedup id set is recomputed from the stored messages.
-/
import Iggy.Log.Lemmas.Persist
namespace Iggy.Log

theorem eraseDups_of_nodup {l : List Nat} (h : l.Nodup) : l.eraseDups = l := by
  induction l with
  | nil => rfl
  | cons a l ih =>
    have h' := List.nodup_cons.1 h
    rw [List.eraseDups_cons]
    have hf : l.filter (fun b => !b == a) = l := by
      rw [List.filter_eq_self]
      intro b hb
      have : b ≠ a := fun e => h'.1 (e ▸ hb)
      simpa using this
    rw [hf, ih h'.2]

theorem restart_nodup_eraseDups (l : List Nat) : l.eraseDups.Nodup := by
  induction hn : l.length using Nat.strongRecOn generalizing l with
  | _ n ih =>
    cases l with
    | nil => simp
    | cons a l =>
      rw [List.eraseDups_cons, List.nodup_cons]
      refine ⟨?_, ?_⟩
      · rw [List.mem_eraseDups]
        simp
      · subst hn
        exact ih _ (by
          have := List.length_filter_le (fun b => !b == a) l
          simp only [List.length_cons]; omega) _ rfl

section load
variable {cfg : Cfg} {start now : Nat} {log : List Batch}

@[simp] theorem Seg.load_accMsgs (idx : List Idx) : (Seg.load cfg start now log idx).accMsgs = [] := by
  unfold Seg.accMsgs
  show (match (if decide (cfg.segSize ≤ logBytes log) then none else some (Acc.new _)) with
    | some a => a.msgs | none => []) = []
  cases decide (cfg.segSize ≤ logBytes log) <;> rfl

@[simp] theorem Seg.load_msgs (idx : List Idx) :
    (Seg.load cfg start now log idx).msgs = batchesMsgs log := by
  simp [Seg.msgs_def, Seg.load_accMsgs]
  rfl

theorem Seg.load_closed (idx : List Idx) :
    (Seg.load cfg start now log idx).closed = decide (cfg.segSize ≤ logBytes log) := rfl

theorem mkIdx_getLast_rel {start : Nat} {log : List Batch} (hwf : ∀ b ∈ log, b.WF)
    (hc : consecutiveFrom start (batchesMsgs log)) (pos : Nat) :
    start + (((mkIdx start pos log).getLast?.map (·.rel)).getD 0) =
      start + ((batchesMsgs log).length - 1) := by
  by_cases hnil : log = []
  · subst hnil; simp
  · obtain ⟨init, b, rfl⟩ := exists_snoc_of_ne_nil hnil
    obtain ⟨hne, -, hlast, -⟩ := hwf b (by simp)
    have hl := List.getLast?_eq_some_getLast hne
    have := hc.getLast (m := b.msgs.getLast hne) (by simp [List.getLast?_append, hl])
    rw [hl] at hlast
    simp only [Option.map_some, Option.some.injEq] at hlast
    rw [mkIdx_snoc]
    simp at this ⊢; omega

/-- `eo`: `Seg.load` itself leaves `endOff = 0`, which is wrong when the log fills the segment; `Part.load`
repairs it afterwards (storage.rs l.182-202) -/
theorem Seg.load_inv (hwf : ∀ b ∈ log, b.WF) (hc : consecutiveFrom start (batchesMsgs log))
    (hnow : ∀ m ∈ batchesMsgs log, m.ts ≤ now) {eo : Nat}
    (heo : cfg.segSize ≤ logBytes log → eo = (Seg.load cfg start now log (mkIdx start 0 log)).cur) :
    ({ Seg.load cfg start now log (mkIdx start 0 log) with endOff := eo } : Seg).Inv cfg := by
  have hm := Seg.load_msgs (cfg := cfg) (start := start) (now := now) (log := log) (mkIdx start 0 log)
  have ha := Seg.load_accMsgs (cfg := cfg) (start := start) (now := now) (log := log) (mkIdx start 0 log)
  exact
    { batches := hwf
      offsets := hm.symm ▸ hc
      idxFile := rfl
      idxCache := rfl
      pos := rfl
      size := ha.symm ▸ rfl
      cur := hm.symm ▸ mkIdx_getLast_rel hwf hc 0
      accHdr := fun a hacc hne => absurd ((Seg.accMsgs_of_acc hacc).symm.trans ha) hne
      endTs := hm.symm ▸ hnow
      closed := by
        intro hcl
        have hcl' : decide (cfg.segSize ≤ logBytes log) = true := hcl
        refine ⟨?_, heo (of_decide_eq_true hcl'), of_decide_eq_true hcl'⟩
        show (if decide (cfg.segSize ≤ logBytes log) then none else some (Acc.new _)) = none
        rw [hcl']; rfl
      open_ := by
        intro hcl
        have := of_decide_eq_false (show decide (cfg.segSize ≤ logBytes log) = false from hcl)
        exact Or.inl (Nat.lt_of_not_le this) }

end load

def Seg.reload (cfg : Cfg) (now : Nat) (s : Seg) : Seg := Seg.load cfg s.start now s.log s.idxFile

/-- the reloaded segment after the end-offset fix-ups of `Part.load` -/
def Seg.reloadFix (cfg : Cfg) (now : Nat) (s : Seg) : Seg :=
  { s.reload cfg now with endOff := if s.closed then s.cur else 0 }

section seg
variable {cfg : Cfg} {now : Nat} {s : Seg}

@[simp] theorem Seg.reload_start : (s.reload cfg now).start = s.start := rfl
@[simp] theorem Seg.reload_log : (s.reload cfg now).log = s.log := rfl
@[simp] theorem Seg.reload_idxFile : (s.reload cfg now).idxFile = s.idxFile := rfl
@[simp] theorem Seg.reload_endOff : (s.reload cfg now).endOff = 0 := rfl
@[simp] theorem Seg.reload_endTs : (s.reload cfg now).endTs = now := rfl
theorem Seg.reload_lastIdxPos : (s.reload cfg now).lastIdxPos = logBytes s.log := rfl
theorem Seg.reload_idxCache :
    (s.reload cfg now).idxCache = if cfg.idxCacheOn then some s.idxFile else none := rfl

@[simp] theorem Seg.reloadFix_start : (s.reloadFix cfg now).start = s.start := rfl
@[simp] theorem Seg.reloadFix_log : (s.reloadFix cfg now).log = s.log := rfl
@[simp] theorem Seg.reloadFix_idxFile : (s.reloadFix cfg now).idxFile = s.idxFile := rfl
@[simp] theorem Seg.reloadFix_endTs : (s.reloadFix cfg now).endTs = now := rfl
theorem Seg.reloadFix_cur' : (s.reloadFix cfg now).cur = (s.reload cfg now).cur := rfl
theorem Seg.reloadFix_sizeBytes' : (s.reloadFix cfg now).sizeBytes = (s.reload cfg now).sizeBytes := rfl

theorem Seg.reloadFix_msgs (ha : s.accMsgs = []) : (s.reloadFix cfg now).msgs = s.msgs := by
  rw [Seg.msgs_def s, ha, List.append_nil]
  exact Seg.load_msgs (now := now) s.idxFile

/-- `Part.load` arrives at the end offset by other routes (`fixEnds` from the successor's start, the
last-segment fix-up from `cur`) -/
theorem Seg.reloadFix_eq {eo : Nat} (he : eo = if s.closed then s.cur else 0) :
    ({ s.reload cfg now with endOff := eo } : Seg) = s.reloadFix cfg now := by
  subst he; rfl

variable (h : s.Inv cfg) (ha : s.accMsgs = [])
include h ha

theorem Seg.Inv.sizeBytes_of_accMsgs_nil : s.sizeBytes = logBytes s.log := by
  have := h.size; simp [ha] at this; exact this

theorem Seg.reloadFix_sizeBytes : (s.reloadFix cfg now).sizeBytes = s.sizeBytes :=
  (h.sizeBytes_of_accMsgs_nil ha).symm

theorem Seg.reloadFix_closed : (s.reloadFix cfg now).closed = s.closed := by
  show decide (cfg.segSize ≤ logBytes s.log) = _
  rw [← h.sizeBytes_of_accMsgs_nil ha]
  cases hc : s.closed with
  | true => simpa using (h.closed hc).2.2
  | false =>
    rcases h.open_ hc with h1 | h1
    · simpa using h1
    · exact absurd ha h1

theorem Seg.reloadFix_cur : (s.reloadFix cfg now).cur = s.cur := by
  show s.start + ((s.idxFile.getLast?.map (·.rel)).getD 0) = _
  rw [h.idxFile, mkIdx_getLast_rel h.batches h.log_consecutive, h.cur]
  simp [Seg.msgs, ha]

theorem Seg.reloadFix_inv (hnow : ∀ m ∈ s.msgs, m.ts ≤ now) : (s.reloadFix cfg now).Inv cfg := by
  have hcur := Seg.reloadFix_cur (now := now) h ha
  have hcl := Seg.reloadFix_closed (now := now) h ha
  unfold Seg.reloadFix Seg.reload at hcur hcl ⊢
  rw [h.idxFile] at hcur hcl ⊢
  refine Seg.load_inv h.batches h.log_consecutive (fun m hm => hnow m (by simp [Seg.msgs_def, hm])) ?_
  intro hsz
  rw [← hcl, Seg.load_closed, decide_eq_true hsz, if_pos rfl, hcur]

end seg

def segFiles (l : List Seg) : List SegFiles :=
  l.map (fun s => { start := s.start, log := s.log, idxFile := s.idxFile })

theorem Part.files_eq (p : Part) : p.files = segFiles p.segs := rfl

theorem segFiles_map_load (cfg : Cfg) (now : Nat) (l : List Seg) :
    (segFiles l).map (fun f => Seg.load cfg f.start now f.log f.idxFile) = l.map (Seg.reload cfg now) := by
  simp [segFiles, List.map_map, Function.comp_def, Seg.reload]

theorem segFiles_logs (l : List Seg) : (segFiles l).map (·.log) = l.map (·.log) := by
  simp [segFiles, List.map_map, Function.comp_def]

/-- the segment list `Part.load` ends up with, from the freshly loaded segments -/
def loadSegs (segs0 : List Seg) : List Seg :=
  match (fixEnds segs0).getLast? with
  | some l =>
    if l.closed then updLast (fixEnds segs0) (fun s => { s with endOff := s.cur }) else fixEnds segs0
  | none => fixEnds segs0

theorem fixEnds_cons_cons (s t : Seg) (rest : List Seg) :
    fixEnds (s :: t :: rest) = { s with endOff := t.start - 1 } :: fixEnds (t :: rest) := rfl

theorem loadSegs_cons_cons (s t : Seg) (r : List Seg) :
    loadSegs (s :: t :: r) = { s with endOff := t.start - 1 } :: loadSegs (t :: r) := by
  unfold loadSegs
  rw [fixEnds_cons_cons]
  obtain ⟨a, b, hab⟩ : ∃ a b, fixEnds (t :: r) = a :: b := by cases r <;> exact ⟨_, _, rfl⟩
  rw [hab, List.getLast?_cons_cons]
  cases (a :: b).getLast? with
  | none => rfl
  | some l => cases hcl : l.closed <;> simp [hcl, updLast]

theorem loadSegs_map_reload {cfg : Cfg} {now : Nat} (hseg : 0 < cfg.segSize) {l : List Seg} {n : Nat}
    (hc : chain l n) (hinv : ∀ s ∈ l, s.Inv cfg) (hacc : ∀ s ∈ l, s.accMsgs = []) :
    loadSegs (l.map (Seg.reload cfg now)) = l.map (Seg.reloadFix cfg now) := by
  induction l with
  | nil => exact hc.elim
  | cons a l ih =>
    obtain ⟨ha, hl⟩ := List.forall_mem_cons.1 hinv
    cases l with
    | nil =>
      have hcl : (a.reload cfg now).closed = a.closed := Seg.reloadFix_closed (now := now) ha (hacc a (by simp))
      have hcur : (a.reload cfg now).cur = a.cur := Seg.reloadFix_cur (now := now) ha (hacc a (by simp))
      show (if (a.reload cfg now).closed then _ else _) = _
      rw [hcl]
      cases hcl' : a.closed
      · exact congrArg ([·]) (Seg.reloadFix_eq (s := a) (eo := 0) (by rw [hcl']; rfl))
      · exact congrArg ([·]) (Seg.reloadFix_eq (by rw [hcl', hcur]; rfl))
    | cons b r =>
      rw [chain_cons_cons] at hc
      rw [List.map_cons, List.map_cons, loadSegs_cons_cons, ← List.map_cons,
        ih hc.2.2 hl (fun s hs => hacc s (by simp [hs])), List.map_cons (f := Seg.reloadFix cfg now)]
      have := List.length_pos_iff.2 (ha.msgs_ne_nil_of_closed hseg hc.2.1)
      exact congrArg (· :: _) (Seg.reloadFix_eq (by
        rw [Seg.reload_start, if_pos hc.2.1, ha.cur, ← hc.1, Nat.add_sub_assoc this]))

/-- `loadLastEmpty`, `loadInc`, `loadCur`: the local `lastEmpty`, and the fields `shouldInc` and `cur`, of
`Part.load` as functions of its final segment list: `(Part.load …).shouldInc = loadInc (Part.load …).segs` and
`(Part.load …).cur = loadCur (Part.load …).segs` hold by `rfl`, so `(Part.load …).next` unfolds to the
left-hand side of `loadNext_of_chain` -/
def loadLastEmpty (segs : List Seg) : Bool :=
  match segs.getLast? with
  | some l => decide (l.sizeBytes = 0 ∧ 0 < l.start)
  | none => false

def loadInc (segs : List Seg) : Bool := segs.any (fun s => s.sizeBytes > 0) || loadLastEmpty segs

def loadCur (segs : List Seg) : Nat :=
  (segs.getLast?.map (fun l => if loadLastEmpty segs then l.start - 1 else l.cur)).getD 0

section loadFields
variable (cfg : Cfg) (e : Option Nat) (now : Nat) (files : List SegFiles) (co go : List (Nat × Nat))
  (cl : Nat)

theorem Part.load_segs : (Part.load cfg e now files co go cl).segs =
    loadSegs (files.map (fun f => Seg.load cfg f.start now f.log f.idxFile)) := rfl
theorem Part.load_cache : (Part.load cfg e now files co go cl).cache =
    if cfg.cacheOn then
      some ((batchesMsgs (files.map (·.log)).flatten).drop
        ((batchesMsgs (files.map (·.log)).flatten).length - cl))
    else none := rfl
theorem Part.load_dedup : (Part.load cfg e now files co go cl).dedup =
    if cfg.dedupOn then some ((batchesMsgs (files.map (·.log)).flatten).map (·.id)).eraseDups
    else none := rfl
theorem Part.load_consOffs : (Part.load cfg e now files co go cl).consOffs = co := rfl
theorem Part.load_grpOffs : (Part.load cfg e now files co go cl).grpOffs = go := rfl
theorem Part.load_expiry : (Part.load cfg e now files co go cl).expiry = e := rfl
theorem Part.load_cnt_segs : (Part.load cfg e now files co go cl).cnt.segs =
    (Part.load cfg e now files co go cl).segs.length := rfl
theorem Part.load_cnt_size : (Part.load cfg e now files co go cl).cnt.size =
    ((Part.load cfg e now files co go cl).segs.map (·.sizeBytes)).sum := rfl
theorem Part.load_cnt_msgs : (Part.load cfg e now files co go cl).cnt.msgs =
    ((Part.load cfg e now files co go cl).segs.map Seg.msgCount).sum := rfl

end loadFields

/-! ## `should_increment_offset` / `current_offset` of a loaded partition -/

theorem loadLastEmpty_snoc (init : List Seg) (gl : Seg) :
    loadLastEmpty (init ++ [gl]) = decide (gl.sizeBytes = 0 ∧ 0 < gl.start) := by
  simp [loadLastEmpty]

theorem loadCur_snoc (init : List Seg) (gl : Seg) :
    loadCur (init ++ [gl]) = if loadLastEmpty (init ++ [gl]) then gl.start - 1 else gl.cur := by
  simp [loadCur]

theorem loadNext_of_chain {cfg : Cfg} {l : List Seg} {n : Nat} (hc : chain l n) (hinv : ∀ s ∈ l, s.Inv cfg)
    (hsz : ∀ m ∈ segsMsgs l, 0 < m.size) :
    (if loadInc l then loadCur l + 1 else 0) = n ∧ (loadInc l = false → loadCur l = 0) := by
  obtain ⟨a, hta, hlen⟩ := (chain_iff_tiled.1 hc).2
  obtain ⟨init, gl, rfl⟩ := exists_snoc_of_ne_nil (chain_ne_nil hc)
  have hz : ∀ s ∈ init ++ [gl], s.sizeBytes = 0 ↔ s.msgs = [] :=
    fun s hs => (hinv s hs).sizeBytes_eq_zero_iff (fun m hm => hsz m (mem_segsMsgs.2 ⟨s, hs, hm⟩))
  have hcur := (hinv gl (by simp)).cur
  have hn := (chain_snoc.1 hc).2
  have hzl := hz gl (by simp)
  -- a segment with bytes holds a message, so the chain ends above 0
  have hany : (init ++ [gl]).any (fun s => s.sizeBytes > 0) = true → 0 < n := by
    rw [List.any_eq_true]
    rintro ⟨s, hs, hpos⟩
    have := hta.end_le s hs
    have := List.length_pos_iff.2 (fun hm => by simp [(hz s hs).2 hm] at hpos : s.msgs ≠ [])
    omega
  rw [loadCur_snoc]
  unfold loadInc
  rw [loadLastEmpty_snoc]
  by_cases hm : gl.msgs = []
  · rw [hm, List.length_nil] at hn hcur
    by_cases hs : 0 < gl.start
    · simp [hzl.2 hm, hs]; omega
    · cases h : (init ++ [gl]).any (fun s => s.sizeBytes > 0)
      · simp [hs, hcur]; omega
      · have := hany h; omega
  · have := List.length_pos_iff.2 hm
    have hany' : (init ++ [gl]).any (fun s => s.sizeBytes > 0) = true :=
      List.any_eq_true.2 ⟨gl, by simp, by simpa [Nat.pos_iff_ne_zero] using mt hzl.1 hm⟩
    simp [hany', mt hzl.1 hm]; omega

theorem batchesMsgs_flatten_logs {l : List Seg} (hacc : ∀ s ∈ l, s.accMsgs = []) :
    batchesMsgs (l.map (·.log)).flatten = segsMsgs l := by
  induction l with
  | nil => rfl
  | cons a l ih =>
    simp only [List.map_cons, List.flatten_cons, batchesMsgs_append, segsMsgs_cons,
      ih (fun s hs => hacc s (by simp [hs]))]
    simp [Seg.msgs, hacc a (by simp)]

section clean
variable {cfg : Cfg} {l : List Seg} {n now : Nat} {e : Option Nat} {co go : List (Nat × Nat)}

theorem Part.load_segs_of_clean (hseg : 0 < cfg.segSize) (hc : chain l n) (hinv : ∀ s ∈ l, s.Inv cfg)
    (hacc : ∀ s ∈ l, s.accMsgs = []) (cl : Nat) :
    (Part.load cfg e now (segFiles l) co go cl).segs = l.map (Seg.reloadFix cfg now) := by
  rw [Part.load_segs, segFiles_map_load]
  exact loadSegs_map_reload hseg hc hinv hacc

/-- `hnow`: the clock did not go backwards -/
theorem Part.load_of_clean (hseg : 0 < cfg.segSize) (hc : chain l n) (hinv : ∀ s ∈ l, s.Inv cfg)
    (hacc : ∀ s ∈ l, s.accMsgs = []) (hsz : ∀ m ∈ segsMsgs l, 0 < m.size) (hts : tsSorted (segsMsgs l))
    (hnow : ∀ m ∈ segsMsgs l, m.ts ≤ now) (hid : cfg.dedupOn = true → ((segsMsgs l).map (·.id)).Nodup)
    (hco : OffsBelow co n) (hgo : OffsBelow go n)
    {cl : Nat} {q : Part} (hq : Part.load cfg e now (segFiles l) co go cl = q) :
    q.Inv cfg ∧ q.msgs = segsMsgs l ∧ q.next = n := by
  -- the loaded segments are those of `l`, each with its start, messages and closed flag: the clauses
  -- about segments and messages carry over from `l`, and `next` is `loadNext_of_chain`
  have hsegs : q.segs = l.map (Seg.reloadFix cfg now) := by
    rw [← hq]; exact Part.load_segs_of_clean hseg hc hinv hacc cl
  have hmsgs : q.msgs = segsMsgs l := by
    rw [Part.msgs_eq, hsegs]
    exact segsMsgs_map_of_msgs (fun s hs => Seg.reloadFix_msgs (hacc s hs))
  have hinvs : ∀ s ∈ q.segs, s.Inv cfg := by
    intro s hsm
    rw [hsegs] at hsm
    obtain ⟨t, ht, rfl⟩ := List.mem_map.1 hsm
    exact Seg.reloadFix_inv (hinv t ht) (hacc t ht) (fun m hm => hnow m (mem_segsMsgs.2 ⟨t, ht, hm⟩))
  have hchain : chain q.segs n := by
    rw [hsegs]
    exact chain_map (fun s hs => ⟨Seg.reloadFix_start, Seg.reloadFix_msgs (hacc s hs),
      fun hcl => by rw [Seg.reloadFix_closed (hinv s hs) (hacc s hs)]; exact hcl⟩) hc
  obtain ⟨hnext, hzero⟩ : q.next = n ∧ (q.shouldInc = false → q.cur = 0) := by
    have := loadNext_of_chain hchain hinvs (by rw [← Part.msgs_eq, hmsgs]; exact hsz)
    rw [← hq] at this ⊢
    exact this
  have hall : batchesMsgs ((segFiles l).map (·.log)).flatten = segsMsgs l := by
    rw [segFiles_logs, batchesMsgs_flatten_logs hacc]
  obtain ⟨a, hta, hlen⟩ := (chain_iff_tiled.1 hc).2
  have hcons := hta.consecutive (fun s hs => (hinv s hs).offsets)
  refine ⟨?_, hmsgs, hnext⟩
  exact
    { segs := hinvs
      chain := by rw [hnext]; exact hchain
      sizes := by rw [hmsgs]; exact hsz
      ts := by rw [hmsgs]; exact hts
      cache := by
        intro c hcq
        rw [← hq, Part.load_cache, hall] at hcq
        obtain ⟨-, hcq⟩ := Option.ite_none_right_eq_some.1 hcq
        cases hcq
        rw [hmsgs, hnext]
        refine cache_drop ⟨Or.inl (List.suffix_refl _), ?_, hlen ▸ Nat.le_add_left _ _⟩ _
        rw [← hlen, Nat.add_sub_cancel]
        exact hcons
      cacheCfg := by rw [← hq, Part.load_cache]; cases cfg.cacheOn <;> rfl
      dedupCfg := by rw [← hq, Part.load_dedup]; cases cfg.dedupOn <;> rfl
      dedupIds := by
        intro ids hids
        rw [← hq, Part.load_dedup, hall] at hids
        obtain ⟨hon, hids⟩ := Option.ite_none_right_eq_some.1 hids
        cases hids
        rw [hmsgs]
        exact ⟨fun m hm => List.mem_eraseDups.2 (List.mem_map.2 ⟨m, hm, rfl⟩), hid hon⟩
      cntMsgs := by
        rw [Part.msgs_eq, ← sum_msgCount hinvs (by rw [← Part.msgs_eq, hmsgs]; exact hsz), ← hq]
        exact Part.load_cnt_msgs ..
      cntSize := by rw [← hq]; exact Part.load_cnt_size ..
      cntSegs := by rw [← hq]; exact Part.load_cnt_segs ..
      offsBound := by
        rw [hnext, ← hq]
        exact ⟨hco, hgo⟩
      curZero := hzero
      segSize := hseg }

end clean

/-- Only the dedup id set changes: `Part.load` recomputes it from the stored messages. `hnow` (no stored
message is newer than the restart time) is needed because `Seg.load` sets `end_timestamp := now` and
timestamp polls skip segments by `end_timestamp`. -/
theorem restart_refines {cfg : Cfg} {p : Part} {now : Nat} (h : p.Inv cfg)
    (hnow : ∀ m ∈ p.msgs, m.ts ≤ now) (cacheLen : Nat) :
    (p.restart cfg now cacheLen).Inv cfg ∧
    abs (p.restart cfg now cacheLen) =
      { abs p with ids := (abs p).ids.map (fun _ => ((abs p).msgs.map (·.id)).eraseDups) } := by
  have hq := (save_refines h).1
  have hacc := Part.save_accMsgs cfg p
  have hm := Part.save_msgs cfg p
  obtain ⟨hinv, hmsgs, hnext⟩ := Part.load_of_clean hq.segSize hq.chain hq.segs hacc hq.sizes hq.ts
    (by rw [← Part.msgs_eq, hm]; exact hnow) hq.ids_nodup hq.offsBound.1 hq.offsBound.2
    (q := p.restart cfg now cacheLen) rfl
  refine ⟨hinv, ?_⟩
  have hdedup : (p.restart cfg now cacheLen).dedup =
      p.dedup.map (fun _ => (p.msgs.map (·.id)).eraseDups) := by
    show (Part.load ..).dedup = _
    rw [Part.load_dedup, Part.files_eq, segFiles_logs, batchesMsgs_flatten_logs hacc, ← Part.msgs_eq, hm,
      ← hq.dedupCfg]
    show _ = (p.save cfg).dedup.map _
    cases (p.save cfg).dedup <;> rfl
  show SPart.mk _ _ _ _ _ _ = SPart.mk _ _ _ _ _ _
  rw [hmsgs, ← Part.msgs_eq, hnext, hdedup, hm]
  rfl

theorem Counters.ext {c d : Counters} (h1 : c.msgs = d.msgs) (h2 : c.size = d.size) (h3 : c.segs = d.segs) :
    c = d := by
  cases c; cases d; cases h1; cases h2; cases h3; rfl

theorem Part.restart_cnt {cfg : Cfg} {p : Part} {now : Nat} (h : p.Inv cfg) (hnow : ∀ m ∈ p.msgs, m.ts ≤ now)
    (cacheLen : Nat) : (p.restart cfg now cacheLen).cnt = (p.save cfg).cnt := by
  obtain ⟨hinv, habs⟩ := restart_refines h hnow cacheLen
  have hq := (save_refines h).1
  have hacc := Part.save_accMsgs cfg p
  have hsegs : (p.restart cfg now cacheLen).segs = (p.save cfg).segs.map (Seg.reloadFix cfg now) :=
    Part.load_segs_of_clean hq.segSize hq.chain hq.segs hacc cacheLen
  have hm : (p.restart cfg now cacheLen).msgs = p.msgs := congrArg SPart.msgs habs
  refine Counters.ext (hinv.cntMsgs.trans (hm ▸ h.cntMsgs.symm)) ?_ ?_
  · rw [hinv.cntSize, hq.cntSize, hsegs, List.map_map]
    exact congrArg List.sum (List.map_congr_left fun s hs =>
      Seg.reloadFix_sizeBytes (hq.segs s hs) (hacc s hs))
  · rw [hinv.cntSegs, hsegs, List.length_map, hq.cntSegs]

end Iggy.Log

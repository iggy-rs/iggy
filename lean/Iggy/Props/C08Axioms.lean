import Iggy.Props.C08
#print axioms Iggy.Props.C08.exclusive_cover
#print axioms Iggy.Props.C08.exclusive_cover_member
#print axioms Iggy.Props.C08.member_unique
#print axioms Iggy.Props.C08.exclusive_client
#print axioms Iggy.Props.C08.shares_disjoint
#print axioms Iggy.Props.C08.shares_only_existing
#print axioms Iggy.Props.C08.balanced
#print axioms Iggy.Props.C08.share_size
#print axioms Iggy.Props.C08.share_ascending
#print axioms Iggy.Props.C08.members_preserved
#print axioms Iggy.Props.C08.assign_idempotent
#print axioms Iggy.Props.C08.join_members
#print axioms Iggy.Props.C08.leave_members
#print axioms Iggy.Props.C08.parts_tracks_topic
#print axioms Iggy.Props.C08.adopt_members
#print axioms Iggy.Props.C08.reachable_assigned
#print axioms Iggy.Props.C08.reachable_nodup_partial
#print axioms Iggy.Props.C08.reachable_members
#print axioms Iggy.Props.C08.reachable_exclusive_cover
#print axioms Iggy.Props.C08.reachable_exclusive_client
#print axioms Iggy.Props.C08.reachable_shares_only_existing
#print axioms Iggy.Props.C08.reachable_balanced
#print axioms Iggy.Props.C08.rotation_in_share
#print axioms Iggy.Props.C08.rotation
#print axioms Iggy.Props.C08.rotation_round
#print axioms Iggy.Props.C08.empty_share_none
#print axioms Iggy.Props.C08.empty_share_iff
#print axioms Iggy.Props.C08.poll_from_own_share
#print axioms Iggy.Props.C08.rotation_from
#print axioms Iggy.Props.C08.poll_keeps_shares
#print axioms Iggy.Props.C08.reachable_with_polls
#print axioms Iggy.Props.C08.reachable_with_polls_exclusive
#print axioms Iggy.Props.C08.reachable_with_polls_even
#print axioms Iggy.Props.C08.reachable_with_polls_served
#print axioms Iggy.Props.C08.deliver_spec
#print axioms Iggy.Props.C08.deliver_commits
#print axioms Iggy.Props.C08.delivery_progress
#print axioms Iggy.Props.C08.delivery_drains
#print axioms Iggy.Props.C08.delivered_exact
#print axioms Iggy.Props.C08.delivered_prefix
#print axioms Iggy.Props.C08.delivered_sublist
#print axioms Iggy.Props.C08.delivered_increasing
#print axioms Iggy.Props.C08.topic_delivered_prefix

import Iggy.Props.C12NoWait
#print axioms Iggy.Props.C12NoWait.byOffset_prefix
#print axioms Iggy.Props.C12NoWait.byOffset_prefix_spec
#print axioms Iggy.Props.C12NoWait.byOffset_mem
#print axioms Iggy.Props.C12NoWait.byOffset_complete_when_settled
#print axioms Iggy.Props.C12NoWait.byOffset_monotone
#print axioms Iggy.Props.C12NoWait.visibleByTs_nil
#print axioms Iggy.Props.C12NoWait.visibleByTs_cons
#print axioms Iggy.Props.C12NoWait.rawByTs_head
#print axioms Iggy.Props.C12NoWait.before_first_older
#print axioms Iggy.Props.C12NoWait.matches_consecutive
#print axioms Iggy.Props.C12NoWait.head_of_sublist
#print axioms Iggy.Props.C12NoWait.byTs_prefix
#print axioms Iggy.Props.C12NoWait.byTs_prefix_same
#print axioms Iggy.Props.C12NoWait.byTs_prefix_spec
#print axioms Iggy.Props.C12NoWait.byTs_complete_when_settled
#print axioms Iggy.Props.C12NoWait.byTs_monotone
#print axioms Iggy.Props.C12NoWait.first_check_necessary
#print axioms Iggy.Props.C12NoWait.truncation_necessary
#print axioms Iggy.Props.C12NoWait.pred_check_necessary
#print axioms Iggy.Props.C12NoWait.pred_older_necessary

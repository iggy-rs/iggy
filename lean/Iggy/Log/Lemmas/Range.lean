/-
List facts behind the read paths and retention: a predicate monotone along a list selects a prefix or
a suffix; on consecutive offsets a filter by an offset bound is a `drop` or a `take`.
-/
import Iggy.Log.Lemmas.Basic
namespace Iggy.Log

section monotone
variable {α : Type} {q : α → Bool} {l : List α}

theorem filter_eq_takeWhile (h : l.Pairwise (fun x y => q y = true → q x = true)) :
    l.filter q = l.takeWhile q := by
  induction l with
  | nil => rfl
  | cons x t ih =>
    obtain ⟨hx, ht⟩ := List.pairwise_cons.1 h
    by_cases hq : q x = true
    · rw [List.filter_cons_of_pos hq, List.takeWhile_cons_of_pos hq, ih ht]
    · rw [List.filter_cons_of_neg hq, List.takeWhile_cons_of_neg hq]
      exact List.filter_eq_nil_iff.2 fun y hy hqy => hq (hx y hy hqy)

theorem dropWhile_eq_filter_not (h : l.Pairwise (fun x y => q y = true → q x = true)) :
    l.dropWhile q = l.filter (fun x => !q x) := by
  induction l with
  | nil => rfl
  | cons x t ih =>
    obtain ⟨hx, ht⟩ := List.pairwise_cons.1 h
    by_cases hq : q x = true
    · rw [List.dropWhile_cons_of_pos hq, List.filter_cons_of_neg (by rw [hq]; exact Bool.false_ne_true),
        ih ht]
    · have hall : ∀ y ∈ x :: t, (!q y) = true := fun y hy => by
        rcases List.mem_cons.1 hy with rfl | hy
        · rw [Bool.not_eq_true] at hq; rw [hq]; rfl
        · cases hqy : q y with
          | false => rfl
          | true => exact absurd (hx y hy hqy) hq
      rw [List.dropWhile_cons_of_neg hq, List.filter_eq_self.2 hall]

theorem exists_filter_append (h : l.Pairwise (fun x y => q y = true → q x = true)) :
    ∃ rest, l = l.filter q ++ rest ∧ ∀ y ∈ rest, q y = false :=
  ⟨l.dropWhile q, by rw [filter_eq_takeWhile h, List.takeWhile_append_dropWhile], fun y hy => by
    rw [dropWhile_eq_filter_not h] at hy; simpa using (List.mem_filter.1 hy).2⟩

variable {k : α → Nat}

theorem takeWhile_le_eq_filter (h : l.Pairwise (fun x y => k x ≤ k y)) (hi : Nat) :
    l.takeWhile (fun x => k x ≤ hi) = l.filter (fun x => k x ≤ hi) :=
  (filter_eq_takeWhile (h.imp fun hxy => by simp only [decide_eq_true_eq]; omega)).symm

theorem dropWhile_lt_eq_filter (h : l.Pairwise (fun x y => k x ≤ k y)) (lo : Nat) :
    l.dropWhile (fun x => k x < lo) = l.filter (fun x => lo ≤ k x) := by
  rw [dropWhile_eq_filter_not (h.imp fun hxy => by simp only [decide_eq_true_eq]; omega)]
  exact List.filter_congr fun x _ => by simp [← Nat.not_le]

end monotone

theorem rel_getLast {α : Type} {R : α → α → Prop} {l : List α} (h : l.Pairwise R) {x : α}
    (hx : l.getLast? = some x) : ∀ m ∈ l, m = x ∨ R m x := by
  obtain ⟨ys, rfl⟩ := List.getLast?_eq_some_iff.1 hx
  intro m hm
  rcases List.mem_append.1 hm with hm | hm
  · exact Or.inr ((List.pairwise_append.1 h).2.2 m hm x (by simp))
  · exact Or.inl (List.mem_singleton.1 hm)

theorem filter_gt_last_take {l : List Msg} (hs : l.Pairwise (fun a b => a.off < b.off)) {c : Nat}
    {x : Msg} (hx : (l.take c).getLast? = some x) : l.filter (fun m => x.off < m.off) = l.drop c := by
  rw [← List.take_append_drop c l, List.pairwise_append] at hs
  conv => lhs; rw [← List.take_append_drop c l]
  rw [List.filter_append, List.filter_eq_nil_iff.mpr, List.nil_append, List.filter_eq_self.mpr]
  · intro z hz
    simpa using hs.2.2 x (List.mem_of_getLast? hx) z hz
  · intro y hy
    rcases rel_getLast hs.1 hx y hy with rfl | h <;> simp <;> omega

theorem take_append_take {α : Type} (A B : List α) (n : Nat) :
    A.take n ++ B.take (n - (A.take n).length) = (A ++ B).take n := by
  rw [List.take_append, List.length_take]
  rcases Nat.le_total n A.length with h | h
  · rw [Nat.min_eq_left h, Nat.sub_self, Nat.sub_eq_zero_of_le h]
  · rw [Nat.min_eq_right h]

theorem take_prefix_take {α : Type} {A B : List α} (h : A <+: B) (n : Nat) : A.take n <+: B.take n :=
  List.prefix_take_iff.2 ⟨(List.take_prefix _ _).trans h, List.length_take_le _ _⟩

namespace consecutiveFrom
variable {c : Nat} {l : List Msg}

theorem filter_ge (h : consecutiveFrom c l) (lo : Nat) :
    l.filter (fun m => lo ≤ m.off) = l.drop (lo - c) := by
  induction l generalizing c with
  | nil => simp
  | cons a l ih =>
    obtain ⟨ha, hl⟩ := h
    by_cases hlo : lo ≤ c
    · have e : lo - (c + 1) = 0 := by omega
      rw [List.filter_cons_of_pos (by rw [decide_eq_true_eq, ha]; exact hlo), ih hl, e,
        Nat.sub_eq_zero_of_le hlo]
      rfl
    · have e : lo - c = lo - (c + 1) + 1 := by omega
      rw [List.filter_cons_of_neg (by rw [decide_eq_true_eq, ha]; exact hlo), ih hl, e,
        List.drop_succ_cons]

theorem filter_lt (h : consecutiveFrom c l) (hi : Nat) :
    l.filter (fun m => m.off < hi) = l.take (hi - c) := by
  induction l generalizing c with
  | nil => simp
  | cons a l ih =>
    obtain ⟨ha, hl⟩ := h
    by_cases hhi : c < hi
    · have e : hi - c = hi - (c + 1) + 1 := by omega
      rw [List.filter_cons_of_pos (by rw [decide_eq_true_eq, ha]; exact hhi), ih hl, e,
        List.take_succ_cons]
    · have e : hi - (c + 1) = 0 := by omega
      rw [List.filter_cons_of_neg (by rw [decide_eq_true_eq, ha]; exact hhi), ih hl, e,
        Nat.sub_eq_zero_of_le (Nat.le_of_not_lt hhi)]
      rfl

theorem take (h : consecutiveFrom c l) (n : Nat) : consecutiveFrom c (l.take n) := by
  rw [← List.take_append_drop n l, consecutiveFrom_append_iff] at h
  exact h.1

theorem filter_range (h : consecutiveFrom c l) (lo hiX : Nat) :
    l.filter (fun m => lo ≤ m.off ∧ m.off < hiX) = (l.take (hiX - c)).drop (lo - c) := by
  rw [← (h.take _).filter_ge, ← h.filter_lt, List.filter_filter]
  exact List.filter_congr fun m _ => Bool.decide_and _ _

theorem filter_window (h : consecutiveFrom c l) (off n : Nat) :
    l.filter (fun m => max off c ≤ m.off ∧ m.off < max off c + n) =
      (l.filter (fun m => off ≤ m.off)).take n := by
  have e : max off c - c = off - c := by
    rcases Nat.le_total off c with h | h
    · rw [Nat.max_eq_right h, Nat.sub_self, Nat.sub_eq_zero_of_le h]
    · rw [Nat.max_eq_left h]
  rw [h.filter_range, h.filter_ge, List.take_drop, Nat.sub_add_comm (Nat.le_max_right off c), e]

theorem filter_suffix {x : List Msg} (h : consecutiveFrom c (x ++ l)) {q : Msg → Bool}
    (hq : ∀ m, m.off < c + x.length → q m = false) : (x ++ l).filter q = l.filter q := by
  have : x.filter q = [] := List.filter_eq_nil_iff.2 fun m hm => by
    simp [hq m ((consecutiveFrom_append_iff.1 h).1.bounds m hm).2]
  rw [List.filter_append, this, List.nil_append]

end consecutiveFrom

end Iggy.Log

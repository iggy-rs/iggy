/-
What one `step` does to the catalogue, in two shapes:
* `Spec.same`   – nothing visible changes and nothing is journalled (every failure, every data-plane
                  operation, every query);
* `Spec.logged` – a successful administrative command: exactly one journal entry, whose replay
                  reproduces the new runtime catalogue (`Journaled`).
-/
import Iggy.Sys.Catalog.Replay
namespace Iggy.Sys
open Iggy.Log

def Out.isErr : Out → Bool
  | .err _ => true
  | _ => false

/-- `y'` is `y` after one journalled command `e`: the catalogue stays well-formed and applying `e` to
any replayed catalogue that shows what `y` shows yields what `y'` shows, without panicking -/
structure Journaled (y y' : Sys) (e : Entry) : Prop where
  journal : y'.journal = y.journal ++ [e]
  wf : y'.CatWF
  replay : ∀ r, viewR r = viewY y → r.panicked = false →
    viewR (applyEntry r e) = viewY y' ∧ (applyEntry r e).panicked = false

inductive Spec (y : Sys) : Sys × Out × List Effect → Prop
  | same {y' : Sys} {out : Out} {effs : List Effect} :
      (out.isErr = true → effs = []) → viewY y' = viewY y → y'.journal = y.journal → Spec y (y', out, effs)
  | logged {y' : Sys} {out : Out} {effs : List Effect} (e : Entry) :
      out.isErr = false → Journaled y y' e → Spec y (y', out, effs)

theorem Spec.failed {y y' : Sys} {e : String} (hv : viewY y' = viewY y) (hj : y'.journal = y.journal) :
    Spec y (y', .err e, []) := .same (fun _ => rfl) hv hj

theorem Spec.quiet {y y' : Sys} {out : Out} {effs : List Effect} (ho : out.isErr = false)
    (hv : viewY y' = viewY y) (hj : y'.journal = y.journal) : Spec y (y', out, effs) :=
  .same (fun h => by rw [ho] at h; cases h) hv hj

theorem Sys.CatWF.of_view {y y' : Sys} (h : y.CatWF) (hv : viewY y' = viewY y) : y'.CatWF := by
  unfold Sys.CatWF; rw [hv]; exact h

theorem Journaled.stream {y : Sys} (h : y.CatWF) {si : Ident} {s s' : Stream} (hs : (s.id, s) ∈ y.streams)
    (hsi : si.Matches s.id s.name) {e : Entry} {f : RStream → Option RStream}
    (he : ∀ r, applyEntry r e = r.withStream si f)
    (hid : s'.id = s.id) (hname : ∀ x ∈ y.streams, x.2.name = s'.name → x.1 = s.id) (hwf : s'.view.WF)
    (hf : ∀ sr : RStream, sr.view = s.view → ∃ sr', f sr = some sr' ∧ sr'.view = s'.view)
    {y' : Sys} (hv : viewY y' = viewY (y.putStream s')) (hj : y'.journal = y.journal ++ [e]) :
    Journaled y y' e := by
  refine ⟨hj, ?_, ?_⟩
  · unfold Sys.CatWF
    rw [hv, viewY_putStream, hid]
    refine CatView.WF.insert h hid ?_ hwf
    intro x hx hn
    obtain ⟨a, ha, rfl⟩ := mem_mapE.1 hx
    exact hname a ha hn
  · intro r hr hp
    rw [he, hv, viewY_putStream, hid, ← hr]
    have hV : CatView.WF (viewR r) := by rw [hr]; exact h
    have hm : (s.id, s.view) ∈ viewR r := by rw [hr]; exact mem_viewY hs
    exact viewR_withStream hp hV hm hsi hf

/-- a journalled command that rewrites one topic (the stream may carry a moved cursor) -/
theorem Journaled.topic {y : Sys} (h : y.CatWF) {si ti : Ident} {s s₁ : Stream} {t t' : Topic}
    (hs : (s.id, s) ∈ y.streams) (hsi : si.Matches s.id s.name)
    (ht : (t.id, t) ∈ s.topics) (hti : ti.Matches t.id t.name) {e : Entry} {f : RTopic → RTopic}
    (hs₁ : s₁.view = s.view)
    {y' : Sys} (hv : viewY y' = viewY (y.putTopic s₁ t')) (hj : y'.journal = y.journal ++ [e])
    (he : ∀ r, applyEntry r e = r.withStream si (fun s => s.withTopic ti f))
    (hid : t'.id = t.id) (hname : ∀ x ∈ s.topics, x.2.name = t'.name → x.1 = t.id) (hwf : t'.view.WF)
    (hf : ∀ tr : RTopic, tr.view = t.view → (f tr).view = t'.view) :
    Journaled y y' e := by
  have hS := h.stream hs
  have hview : (s₁.putTopic t').view = s.view.setTopic t.id t'.view := by
    rw [Stream.view_putTopic, hs₁, hid]
  refine Journaled.stream h hs hsi he (s' := s₁.putTopic t') (congrArg SV.id hs₁) ?_ ?_ ?_ hv hj
  · exact h.scope.fresh_of_same_name hs (congrArg SV.name hs₁)
  · rw [hview]
    refine SV.WF.setTopic hS hid ?_ hwf
    intro x hx hn
    obtain ⟨a, ha, rfl⟩ := mem_mapE (f := fun _ (t : Topic) => t.view).1 hx
    exact hname a ha hn
  · intro sr hsr
    rw [hview, ← hsr]
    exact RStream.view_withTopic (by rw [hsr]; exact hS) (by rw [hsr]; exact mem_view_topics ht) hti hf

theorem withTopic_elim {y : Sys} (h : y.CatWF) {si ti : Ident} {f : Stream → Topic → Sys × Out × List Effect}
    {P : Sys × Out × List Effect → Prop} (herr : ∀ e, P (y, .err e, []))
    (hok : ∀ s t, (s.id, s) ∈ y.streams → si.Matches s.id s.name → (t.id, t) ∈ s.topics →
      ti.Matches t.id t.name → P (f s t)) : P (y.withTopic si ti f) := by
  unfold Sys.withTopic
  split
  · exact herr _
  · next s hs =>
    have hs' := h.findStream.1 hs
    split
    · exact herr _
    · next t ht =>
      have ht' := (h.stream hs'.1).findTopic.1 ht
      exact hok s t hs'.1 hs'.2 ht'.1 ht'.2

theorem Spec.withTopic {y : Sys} (h : y.CatWF) {si ti : Ident} {f : Stream → Topic → Sys × Out × List Effect}
    (hok : ∀ s t, (s.id, s) ∈ y.streams → si.Matches s.id s.name → (t.id, t) ∈ s.topics → ti.Matches t.id t.name →
      t.view.WF → Spec y (f s t)) : Spec y (y.withTopic si ti f) :=
  withTopic_elim h (fun _ => .failed rfl rfl) fun s t hs hsi ht hti => hok s t hs hsi ht hti ((h.stream hs).topic ht)

theorem withPart_elim {y : Sys} (h : y.CatWF) {si ti : Ident} {pid : Nat}
    {f : Stream → Topic → Part → Sys × Out × List Effect}
    {P : Sys × Out × List Effect → Prop} (herr : ∀ e, P (y, .err e, []))
    (hok : ∀ s t p, (s.id, s) ∈ y.streams → si.Matches s.id s.name → (t.id, t) ∈ s.topics →
      ti.Matches t.id t.name → find? t.parts pid = some p → P (f s t p)) : P (y.withPart si ti pid f) := by
  unfold Sys.withPart
  apply withTopic_elim h herr
  intro s t hs hsi ht hti
  split
  · exact herr _
  · next p hp => exact hok s t p hs hsi ht hti hp

end Iggy.Sys

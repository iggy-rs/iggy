/-
FRAME ("sibling isolation") — an operation changes only what it names.

Reading the state by key (Iggy/Sys/FrameLemmas.lean):
  `y.stream? sid`      the whole stream entry under a numeric id (name, topics, partitions, groups, cursors),
  `y.topic? sid tid`   the whole topic entry (settings, partitions, groups, cursors),
  `y.part? (sid,tid,pid)`  the partition as a `Part` value (segments, cache, offsets, counters, expiry).
What an operation names: `Op.stream?`, `Op.topic?`, `Op.part?` (identifiers as sent: numeric or name);
they are resolved with the model's own `findStream` / `findTopic`.

Hypotheses.  Target 1 needs none.  Targets 2–4 assume `y.CatWF` (structural well-formedness: every
entity stored under its own id, ids ascending, names unique, partitions `1..n`), which holds in every
reachable state (`C05.wf_reachable`) and is preserved by every step; `frame_needs_keyed` shows that
without it isolation is false (in an unreachable, mis-keyed state).  Target 5 needs the user-table
invariant `UWF` for `createUser` (and to read "`u.id`" as "the entry of `u`": `named_user_is_entry`) only.

Documented exceptions, stated exactly below:
* `close c` leaves groups in every stream (`close_changes_only_members`, `close_groups_exact`);
* `purgeStream` / `deleteStream` name a stream and act on all its topics (`purgeStream_exact`,
  `deleteStream_removes_only_named`);
* `save`, `maintain`, `restart` are global (`save_exact`, `maintain_topic_local`, C05 for restart);
* `flush`, `evict`, `save` change partitions without reporting an effect — where a message is held
  (buffer / disk / cache), never which messages or offsets exist (`flush_exact`, `evict_exact`,
  `evict_only_cache`, `save_exact`; `quiet_flush_unreported` shows the exception is necessary);
  `maintain` reports `dropped` per partition only when the retained count shrinks: that it changes
  nothing else needs the storage invariant of every partition and is NOT proved here (it is excluded
  from target 4 together with the three above: `Op.quiet`); it is shown local to each topic;
* group rotation cursors and the round-robin send cursor are topic-level fields, not part of any
  `Part`; they are covered by targets 1–2 (only the named topic's entry may change).
-/
import Iggy.Sys.FrameLemmas
namespace Iggy.Props.Frame
open Iggy.Sys Iggy.Log Iggy.Perm

/-! ## the concrete states used by the non-vacuity examples

two streams (`a` = 1, `b` = 2); stream 1 has topics `t` = 1 (two partitions, group `g` = 1 with members 70
and 80) and `u` = 2; stream 2 has topic `v` = 1 (group `h` = 1 with member 70); one message in every
partition (still in the write buffer and in the cache), one stored consumer offset.

The examples are closed by `decide +kernel`, not `decide`: plain `decide` evaluates the `Decidable`
instance in the elaborator before the kernel does, and the elaborator's `whnf` shares no work between
the fields that the derived `DecidableEq` of `Stream` / `Topic` / `Part` compares (one `≠` of two stream
entries that differ deep inside a partition costs it more than checking the rest of this file). -/

def exCfg : Cfg := ⟨10, 1000, true, true, false⟩
def exSCfg : SCfg := ⟨false, some 7, none⟩

def exOps : List Op := [
  .createStream (some 1) "a", .createStream (some 2) "b",
  .createTopic (.num 1) (some 1) "t" 2 .never .unlimited none,
  .createTopic (.num 1) (some 2) "u" 1 .never .unlimited none,
  .createTopic (.num 2) (some 1) "v" 1 .never .unlimited none,
  .createGroup (.num 1) (.num 1) (some 1) "g",
  .createGroup (.num 2) (.num 1) (some 1) "h",
  .me 7 70, .me 8 80,
  .join 7 (.num 1) (.num 1) (.num 1), .join 8 (.num 1) (.num 1) (.num 1), .join 7 (.num 2) (.num 1) (.num 1),
  .send (.num 1) (.num 1) (.pid 1) [⟨1, 50, 1⟩],
  .send (.num 1) (.num 1) (.pid 2) [⟨2, 50, 2⟩],
  .send (.num 1) (.num 2) (.pid 1) [⟨3, 50, 3⟩],
  .send (.num 2) (.num 1) (.pid 1) [⟨4, 50, 4⟩],
  .storeOffset 7 (.num 1) (.num 1) (some 2) ⟨false, 5⟩ 0]

def ex : Sys := exOps.foldl (fun y op => (step y op).1) (Sys.init exCfg exSCfg 0)

/-- the example state satisfies the hypothesis of targets 2–4 -/
theorem ex_wf : ex.CatWF := (wf_run (wf_init exCfg exSCfg 0) exOps).1

example : ex.allKeys = [(1, 1, 1), (1, 1, 2), (1, 2, 1), (2, 1, 1)] := by decide +kernel
example : (ex.findStream (.name "a")).toOption.map (·.id) = some 1 := by decide +kernel
example : ((ex.findStream (.name "a")).toOption.bind (fun s => (s.findTopic (.name "t")).toOption)).map (·.id) = some 1 := by
  decide +kernel

/-- root (1) logged in on connection 1, users `bob` = 2 (logged in on connection 2) and `eve` = 3 -/
def exA : ASys := runA (ASys.init ex 100)
  [.login 1 "iggy" "iggy", .createUser 1 "bob" "pw" true none, .createUser 1 "eve" "pw" true none, .login 2 "bob" "pw"]

example : exA.sessions = [(1, 1), (2, 2)] ∧ exA.users.map (·.1) = [1, 2, 3] := by decide +kernel

/-- a mis-keyed (unreachable) state: the entry under key 1 carries id 2 -/
def exBad : Sys :=
  { Sys.init exCfg exSCfg 0 with
    streams := [(1, { id := 2, name := "a", topicCursor := 1, topics :=
      [(5, { id := 5, name := "t", parts := [], expiry := none, maxSize := none, repl := 1, cursor := 1 }),
       (6, { id := 6, name := "u", parts := [], expiry := none, maxSize := none, repl := 1, cursor := 1 })] })] }

def opSend : Op := .send (.name "a") (.name "t") (.pid 1) [⟨9, 50, 9⟩]
def opBal : Op := .send (.num 1) (.num 1) .balanced [⟨9, 50, 9⟩]
def opPoll : Op := .poll 7 (.num 1) (.name "t") (some 2) ⟨false, 6⟩ .first 1 true
def opDelTopic : Op := .deleteTopic (.num 1) (.name "t")
def opDelUser : AOp := .deleteUser 1 (.name "bob")

/-! ## 1. streams -/

/-- **other_stream_untouched** — every operation that names a stream (by id or by name) which resolves
to `s` leaves the whole entry of every other stream id as it was: topics, partitions, consumer groups,
cursors, everything.  Holds for every state `y`, no invariant needed. -/
theorem other_stream_untouched (y : Sys) (op : Op) {si : Ident} {s : Stream} (hop : op.stream? = some si)
    (hs : y.findStream si = .ok s) {sid' : Nat} (hne : sid' ≠ s.id) :
    (step y op).1.stream? sid' = y.stream? sid' :=
  step_streams_agreeOff y op si s hop hs sid' hne

example : (step ex opSend).1.stream? 2 = ex.stream? 2 ∧ (step ex opSend).1.stream? 1 ≠ ex.stream? 1 := by decide +kernel
example : (step ex (.purgeStream (.name "b"))).1.stream? 1 = ex.stream? 1 ∧
    (step ex (.purgeStream (.name "b"))).1.stream? 2 ≠ ex.stream? 2 := by decide +kernel

/-- in a well-formed catalogue the resolved stream *is* the entry under its id (so "`sid' ≠ s.id`" above
means "another stream") -/
theorem named_stream_is_entry {y : Sys} (h : y.CatWF) {si : Ident} {s : Stream} (hs : y.findStream si = .ok s) :
    y.stream? s.id = some s := h.find_stream hs

example : (ex.stream? 1).map (·.name) = some "a" := by decide +kernel
/-- … which fails in the mis-keyed state: the stream found under key 1 is not the entry under its id -/
example : (exBad.findStream (.num 1)).toOption.map (·.id) = some 2 ∧ exBad.stream? 2 = none := by decide +kernel

/-- a stream identifier that does not resolve: the state is unchanged (all of it) -/
theorem unresolved_stream_changes_nothing (y : Sys) (op : Op) {si : Ident} {e : String} (hop : op.stream? = some si)
    (hs : y.findStream si = .error e) : (step y op).1 = y := step_unresolved_stream y op si e hop hs

example : (step ex (.deleteStream (.name "zz"))).1.streams = ex.streams ∧
    (step ex (.deleteStream (.name "zz"))).2.1 = .err "stream_name_not_found" := by decide +kernel

/-- … likewise a topic identifier that does not resolve -/
theorem unresolved_topic_changes_nothing (y : Sys) (op : Op) {si ti : Ident} {s : Stream} {e : String}
    (hop : op.stream? = some si) (hop' : op.topic? = some ti) (hs : y.findStream si = .ok s)
    (ht : s.findTopic ti = .error e) : (step y op).1 = y := step_unresolved_topic y op si ti s e hop hop' hs ht

example : (step ex (.purgeTopic (.num 1) (.num 9))).1.streams = ex.streams ∧
    (step ex (.purgeTopic (.num 1) (.num 9))).2.1 = .err "topic_id_not_found" := by decide +kernel

/-- operations that name no stream, other than `createStream`, `close` and the global `save` /
`maintain` / `restart` (i.e. `clock`, `me`, `streams`, `stats`): the stream table is unchanged -/
theorem no_stream_op_keeps_streams (y : Sys) (op : Op) (hop : op.stream? = none)
    (h1 : ∀ i n, op ≠ .createStream i n) (h2 : ∀ c, op ≠ .close c) (h3 : op ≠ .save) (h4 : op ≠ .maintain)
    (h5 : ∀ cl, op ≠ .restart cl) : (step y op).1.streams = y.streams := by
  cases op <;> cases hop
  case createStream i n => exact absurd rfl (h1 i n)
  case close c => exact absurd rfl (h2 c)
  case save => exact absurd rfl h3
  case maintain => exact absurd rfl h4
  case restart cl => exact absurd rfl (h5 cl)
  all_goals rfl

example : (step ex (.me 9 90)).1.streams = ex.streams ∧ (step ex (.me 9 90)).1.clients ≠ ex.clients := by decide +kernel

/-- `createStream` only adds an entry: every existing stream entry stays exactly as it was (also when
the command is refused) -/
theorem createStream_keeps_existing (y : Sys) (id : Option Nat) (name : String) {sid : Nat} {s : Stream}
    (h : y.stream? sid = some s) : (step y (.createStream id name)).1.stream? sid = some s := by
  simp only [step]
  let P (x : Sys × Out × List Effect) : Prop := find? x.1.streams sid = some s
  show P _
  refine ite_elim (fun _ => h) fun _ => ite_elim (fun _ => h) fun hnew => (find?_insertAsc_ne _ _ ?_).trans h
  rintro rfl
  rw [Sys.stream?] at h
  simp [h] at hnew

example : (step ex (.createStream none "c")).1.stream? 1 = ex.stream? 1 ∧
    (step ex (.createStream none "c")).1.stream? 2 = ex.stream? 2 ∧
    ((step ex (.createStream none "c")).1.stream? 3).map (·.name) = some "c" := by decide +kernel

/-- `deleteStream s` removes the entry of `s` and no other -/
theorem deleteStream_removes_only_named (y : Sys) {si : Ident} {s : Stream} (hs : y.findStream si = .ok s) :
    (step y (.deleteStream si)).1.stream? s.id = none ∧
    ∀ sid', sid' ≠ s.id → (step y (.deleteStream si)).1.stream? sid' = y.stream? sid' :=
  ⟨by simp only [step, hs]; exact find?_erase_self _ _, fun _ hne => other_stream_untouched y _ rfl hs hne⟩

example : (step ex (.deleteStream (.name "a"))).1.stream? 1 = none ∧
    (step ex (.deleteStream (.name "a"))).1.stream? 2 = ex.stream? 2 ∧ ex.stream? 1 ≠ none := by decide +kernel

/-- **close** — `close c` (the client of connection `c` leaves every group it had joined, in every
stream) changes nothing but member lists of consumer groups: with all member lists blanked
(`noMembers`), the stream table after equals the stream table before — every name, setting, cursor,
group id / name / partition count and every `Part` (messages, cache, consumer and group offsets) is
untouched -/
theorem close_changes_only_members {y : Sys} (h : y.CatWF) (c : Nat) :
    noMembers (step y (.close c)).1.streams = noMembers y.streams := close_noMembers h c

/-- connection 7 (client 70) is a member of groups in both streams; closing it changes both entries -/
example : noMembers (step ex (.close 7)).1.streams = noMembers ex.streams ∧
    (step ex (.close 7)).1.stream? 1 ≠ ex.stream? 1 ∧ (step ex (.close 7)).1.stream? 2 ≠ ex.stream? 2 := by
  decide +kernel

/-- … in particular every partition, with its stored offsets, is untouched -/
theorem close_partitions_untouched {y : Sys} (h : y.CatWF) (c : Nat) (k : PKey) :
    (step y (.close c)).1.part? k = y.part? k := by
  show partOf _ k = partOf _ k
  rw [← partOf_noMembers, close_noMembers h, partOf_noMembers]

example : ∀ k ∈ ex.allKeys, (step ex (.close 7)).1.part? k = ex.part? k ∧ ex.part? k ≠ none := by decide +kernel

/-- … and the groups, exactly: a group the client had joined (its key is in the client's membership
list) becomes `deleteMember client` of itself (the remaining members are re-balanced); every other
group is untouched, members included -/
theorem close_groups_exact {y : Sys} (h : y.CatWF) (c : Nat) (k : Nat × Nat × Nat) :
    groupOf (step y (.close c)).1.streams k =
      (groupOf y.streams k).map (fun g =>
        if k ∈ (find? y.memberships (y.clientOf c)).getD [] then g.deleteMember (y.clientOf c) else g) := by
  simp only [step]
  show groupOf (List.foldl (closeOne (y.clientOf c)) y ((find? y.memberships (y.clientOf c)).getD [])).streams k = _
  generalize (find? y.memberships (y.clientOf c)).getD [] = keys
  generalize y.clientOf c = client
  induction keys generalizing y with
  | nil => simp
  | cons k₁ ks ih =>
    simp only [List.foldl_cons]
    rw [ih (h.of_view (closeOne_same h _ k₁).1), closeOne_groupOf h]
    cases groupOf y.streams k with
    | none => rfl
    | some g =>
      simp only [Option.map_some, List.mem_cons]
      by_cases h1 : k = k₁ <;> by_cases h2 : k ∈ ks <;> simp [h1, h2, Group.deleteMember_idem]

example : (groupOf ex.streams (1, 1, 1)).map (fun g => g.members.map (·.id)) = some [70, 80] ∧
    (groupOf (step ex (.close 7)).1.streams (1, 1, 1)).map (fun g => g.members.map (fun m => (m.id, m.share))) =
      some [(80, [1, 2])] ∧
    (groupOf (step ex (.close 7)).1.streams (2, 1, 1)).map (fun g => g.members.map (·.id)) = some [] ∧
    groupOf (step ex (.close 8)).1.streams (2, 1, 1) = groupOf ex.streams (2, 1, 1) := by decide +kernel

/-! ## 2. topics -/

/-- **other_topic_untouched** — every operation that names topic `t` of stream `s` leaves every other
topic entry of `s` as it was (settings, size limit, expiry, partitions, groups, cursors) -/
theorem other_topic_untouched {y : Sys} (h : y.CatWF) (op : Op) {si ti : Ident} {s : Stream} {t : Topic}
    (hop : op.stream? = some si) (hop' : op.topic? = some ti) (hs : y.findStream si = .ok s)
    (ht : s.findTopic ti = .ok t) {tid' : Nat} (hne : tid' ≠ t.id) :
    (step y op).1.topic? s.id tid' = y.topic? s.id tid' :=
  have hk := h.find_stream hs
  (step_topics_agreeOff y op si ti s t hop hop' hs ht hk tid' hne).trans (topicOf_of_find hk tid').symm

example : (step ex opDelTopic).1.topic? 1 2 = ex.topic? 1 2 ∧ (step ex opDelTopic).1.topic? 1 1 = none ∧
    ex.topic? 1 1 ≠ none := by decide +kernel
example : (step ex opSend).1.topic? 1 2 = ex.topic? 1 2 ∧ (step ex opSend).1.topic? 1 1 ≠ ex.topic? 1 1 := by decide +kernel
example : (step ex (.updateTopic (.num 1) (.num 2) "w" (.dur 5) .unlimited none)).1.topic? 1 1 = ex.topic? 1 1 ∧
    ((step ex (.updateTopic (.num 1) (.num 2) "w" (.dur 5) .unlimited none)).1.topic? 1 2).map (·.expiry) = some (some 5) := by
  decide +kernel

/-- … and, with target 1, every topic entry anywhere other than the named one -/
theorem other_topic_untouched_anywhere {y : Sys} (h : y.CatWF) (op : Op) {si ti : Ident} {s : Stream} {t : Topic}
    (hop : op.stream? = some si) (hop' : op.topic? = some ti) (hs : y.findStream si = .ok s)
    (ht : s.findTopic ti = .ok t) {sid' tid' : Nat} (hne : (sid', tid') ≠ (s.id, t.id)) :
    (step y op).1.topic? sid' tid' = y.topic? sid' tid' := by
  by_cases h1 : sid' = s.id
  · subst h1
    exact other_topic_untouched h op hop hop' hs ht (fun h2 => hne (by rw [h2]))
  · show topicOf _ _ _ = topicOf _ _ _
    rw [topicOf, topicOf, step_streams_agreeOff y op si s hop hs sid' h1]

example : (step ex opDelTopic).1.topic? 2 1 = ex.topic? 2 1 ∧ ex.topic? 2 1 ≠ none := by decide +kernel

/-- the named topic is the entry under its id -/
theorem named_topic_is_entry {y : Sys} (h : y.CatWF) {si ti : Ident} {s : Stream} {t : Topic}
    (hs : y.findStream si = .ok s) (ht : s.findTopic ti = .ok t) : y.topic? s.id t.id = some t :=
  (topicOf_of_find (h.find_stream hs) t.id).trans (h.find_topic hs ht)

example : (ex.topic? 1 1).map (·.name) = some "t" := by decide +kernel

/-- **the hypothesis is needed**: without "every entity is stored under its own id" isolation fails.  In
the mis-keyed state `exBad` (the entry under key 1 carries id 2) `createGroup` on topic 5 of "stream 1"
writes a copy of the stream under key 2, so topic 6 appears under a stream id where there was none.
Such states are unreachable (`C05.wf_reachable`); this is not a defect of the model. -/
theorem frame_needs_keyed : ¬ ∀ (y : Sys) (op : Op) (si ti : Ident) (s : Stream) (t : Topic),
    op.stream? = some si → op.topic? = some ti → y.findStream si = .ok s → s.findTopic ti = .ok t →
    ∀ tid', tid' ≠ t.id → (step y op).1.topic? s.id tid' = y.topic? s.id tid' := by
  intro h
  have := h exBad (.createGroup (.num 1) (.num 5) none "g") (.num 1) (.num 5) _ _ rfl rfl rfl rfl 6 (by decide)
  revert this; decide

/-- operations that name a stream but no topic, other than purge / delete stream (`updateStream`,
`createTopic`, `topics`, `streamInfo`): every existing topic entry of the stream stays exactly as it
was (`createTopic` only adds one) -/
theorem stream_op_keeps_topics {y : Sys} (h : y.CatWF) (op : Op) {si : Ident} {s : Stream}
    (hop : op.stream? = some si) (hop' : op.topic? = none) (h1 : op ≠ .purgeStream si) (h2 : op ≠ .deleteStream si)
    (hs : y.findStream si = .ok s) {tid : Nat} {t : Topic} (ht : y.topic? s.id tid = some t) :
    (step y op).1.topic? s.id tid = some t :=
  have hk := h.find_stream hs
  step_stream_op_keeps_topics y op si s hop hop' h1 h2 hs hk tid t ((topicOf_of_find hk tid).symm.trans ht)

example : (step ex (.createTopic (.num 1) none "w" 1 .never .unlimited none)).1.topic? 1 1 = ex.topic? 1 1 ∧
    (step ex (.createTopic (.num 1) none "w" 1 .never .unlimited none)).1.topic? 1 2 = ex.topic? 1 2 ∧
    ((step ex (.createTopic (.num 1) none "w" 1 .never .unlimited none)).1.topic? 1 3).map (·.name) = some "w" := by
  decide +kernel

/-- `purgeStream` names the stream and acts on all its topics, exactly so: every topic entry keeps its
settings, groups and cursors and has each partition purged -/
theorem purgeStream_exact (y : Sys) {si : Ident} {s : Stream} (hs : y.findStream si = .ok s) (tid : Nat) :
    (step y (.purgeStream si)).1.topic? s.id tid =
      (find? s.topics tid).map (fun t => mapParts t (fun p => p.purge y.cfg y.now)) := by
  simp only [Sys.topic?, step, hs]
  simp [topicOf, find?_insertAsc_self]
  exact find?_mapE (fun _ t => mapParts t (fun p => p.purge y.cfg y.now)) s.topics tid

example : (step ex (.purgeStream (.num 1))).1.topic? 1 1 ≠ ex.topic? 1 1 ∧
    (step ex (.purgeStream (.num 1))).1.topic? 1 2 ≠ ex.topic? 1 2 ∧
    (step ex (.purgeStream (.num 1))).1.topic? 2 1 = ex.topic? 2 1 := by decide +kernel

/-- the outcome of a `send` — result, effects, and the topic entry left behind — is a function of the
named topic alone (and the configuration and clock): the size gate (`topic_full`), the partition
choice and the append see no other topic -/
theorem send_topic_local (y : Sys) (si ti : Ident) (p : Partitioning) (msgs : List InMsg) {s : Stream} {t : Topic}
    (hs : y.findStream si = .ok s) (ht : s.findTopic ti = .ok t) :
    (step y (.send si ti p msgs)).2 = (t.send y.cfg y.scfg s.id y.now p msgs).2 ∧
    (step y (.send si ti p msgs)).1.topic? s.id t.id = some (t.send y.cfg y.scfg s.id y.now p msgs).1 := by
  simp only [Sys.topic?, step, Sys.withTopic, hs, ht]
  refine ⟨trivial, ?_⟩
  rcases t.send_cases y.cfg y.scfg s.id y.now p msgs with ⟨cur, out, he⟩ | ⟨cur, pid, p, p', _, _, _, he⟩ <;>
    simp [he, topicOf, find?_insertAsc_self]

/-- the same send, before and after another topic of the same stream has grown: same result -/
example : (step (step ex (.send (.num 1) (.name "u") (.pid 1) [⟨8, 500, 8⟩])).1 opSend).2.1 = (step ex opSend).2.1 ∧
    (step (step ex (.send (.num 1) (.name "u") (.pid 1) [⟨8, 500, 8⟩])).1 opSend).1.topic? 1 1 =
      (step ex opSend).1.topic? 1 1 := by decide +kernel

/-- retention (`maintain`: expiry and size-based deletion) handles every topic on its own: what it
leaves under (stream id, topic id) is `Topic.maintain` of what was there — a function of that topic,
the configuration and the clock only; no other topic's size, limit or expiry enters -/
theorem maintain_topic_local (y : Sys) (sid tid : Nat) :
    (step y .maintain).1.topic? sid tid =
      (y.topic? sid tid).map (fun t => (t.maintain y.cfg y.scfg sid y.now).1) := by
  simp only [Sys.topic?, step, topicOf, List.map_map, Function.comp_def]
  rw [find?_map_snd (fun se : Nat × Stream => _) y.streams sid]
  cases find? y.streams sid with
  | none => rfl
  | some s =>
    simp only [Option.map_some, Option.bind_some]
    rw [find?_map_snd (fun te : Nat × Topic => _) s.topics tid]

example : (step ex .maintain).1.topic? 1 1 = (ex.topic? 1 1).map (fun t => (t.maintain exCfg exSCfg 1 0).1) := by decide +kernel

/-! ## 3. partitions -/

/-- **other_partition_untouched** — `send … (pid k)`, `poll / storeOffset / getOffset / deleteOffset …
(some k)`, `flush … k`, `evict … k`: every partition `k' ≠ k` of the named topic is unchanged as a `Part`
value (messages, cache, consumer offsets, group offsets, counters) -/
theorem other_partition_untouched {y : Sys} (h : y.CatWF) (op : Op) {si ti : Ident} {k : Nat} {s : Stream} {t : Topic}
    (hop : op.stream? = some si) (hop' : op.topic? = some ti) (hp : op.part? = some k)
    (hs : y.findStream si = .ok s) (ht : s.findTopic ti = .ok t) {k' : Nat} (hne : k' ≠ k) :
    (step y op).1.part? (s.id, t.id, k') = y.part? (s.id, t.id, k') :=
  have hk := h.find_stream hs
  have hkt := h.find_topic hs ht
  ((step_topic_frame y op si ti s t hop hop' hs ht hk hkt).parts k hp k' hne).trans (partOf_of_find hk hkt k').symm

example : (step ex opSend).1.part? (1, 1, 2) = ex.part? (1, 1, 2) ∧ (step ex opSend).1.part? (1, 1, 1) ≠ ex.part? (1, 1, 1) := by
  decide +kernel
/-- an auto-committing poll of partition 2 stores an offset there and nowhere else -/
example : (step ex opPoll).1.part? (1, 1, 1) = ex.part? (1, 1, 1) ∧ (step ex opPoll).1.part? (1, 1, 2) ≠ ex.part? (1, 1, 2) ∧
    ((step ex opPoll).1.part? (1, 1, 2)).map (·.consOffs) = some [(6, 0), (5, 0)] := by decide +kernel
example : (step ex (.deleteOffset 7 (.num 1) (.num 1) (some 2) ⟨false, 5⟩)).1.part? (1, 1, 1) = ex.part? (1, 1, 1) ∧
    ((step ex (.deleteOffset 7 (.num 1) (.num 1) (some 2) ⟨false, 5⟩)).1.part? (1, 1, 2)).map (·.consOffs) = some [] ∧
    (ex.part? (1, 1, 2)).map (·.consOffs) = some [(5, 0)] := by decide +kernel
example : (step ex (.flush (.num 1) (.num 1) 1)).1.part? (1, 1, 2) = ex.part? (1, 1, 2) ∧
    (step ex (.evict (.num 1) (.num 1) 1 0)).1.part? (1, 1, 2) = ex.part? (1, 1, 2) := by decide +kernel

/-- a `send` with any partitioning (`balanced`, `pid`, `key`) either changes no partition and reports
nothing, or appends to exactly one partition of the named topic — the one its single effect names (for
`pid k`: `k`) — and leaves every other partition of the topic alone -/
theorem send_changes_one_partition {y : Sys} (h : y.CatWF) (si ti : Ident) (pt : Partitioning) (msgs : List InMsg)
    {s : Stream} {t : Topic} (hs : y.findStream si = .ok s) (ht : s.findTopic ti = .ok t) :
    ((step y (.send si ti pt msgs)).2.2 = [] ∧
      ∀ c, (step y (.send si ti pt msgs)).1.part? (s.id, t.id, c) = y.part? (s.id, t.id, c)) ∨
    (∃ pid pOld pNew, (step y (.send si ti pt msgs)).2.2 = [.appended (s.id, t.id, pid) y.now msgs] ∧
      (∀ k, pt = .pid k → pid = k) ∧
      y.part? (s.id, t.id, pid) = some pOld ∧ pOld.append y.cfg y.now msgs = .ok pNew ∧
      (step y (.send si ti pt msgs)).1.part? (s.id, t.id, pid) = some pNew ∧
      ∀ c, c ≠ pid → (step y (.send si ti pt msgs)).1.part? (s.id, t.id, c) = y.part? (s.id, t.id, c)) := by
  simp only [show ∀ c, y.part? (s.id, t.id, c) = find? t.parts c from
    partOf_of_find (h.find_stream hs) (h.find_topic hs ht)]
  exact step_send_one_partition y si ti pt msgs s t hs ht

/-- a balanced send: one effect, it names partition 1, partition 2 is untouched -/
example : (step ex opBal).2.2.map Effect.key = [(1, 1, 1)] ∧ (step ex opBal).1.part? (1, 1, 1) ≠ ex.part? (1, 1, 1) ∧
    (step ex opBal).1.part? (1, 1, 2) = ex.part? (1, 1, 2) := by decide +kernel
/-- by key: hash 4 over two partitions is partition 2 -/
example : (step ex (.send (.num 1) (.num 1) (.key 4) [⟨9, 50, 9⟩])).2.2.map Effect.key = [(1, 1, 2)] ∧
    (step ex (.send (.num 1) (.num 1) (.key 4) [⟨9, 50, 9⟩])).1.part? (1, 1, 1) = ex.part? (1, 1, 1) := by decide +kernel

/-- the data-plane operations report at most one effect -/
theorem data_ops_one_effect (y : Sys) (op : Op)
    (hop : (∃ si ti p m, op = .send si ti p m) ∨ (∃ c si ti pid cons k n a, op = .poll c si ti pid cons k n a) ∨
      (∃ c si ti pid cons o, op = .storeOffset c si ti pid cons o) ∨
      (∃ c si ti pid cons, op = .deleteOffset c si ti pid cons) ∨ (∃ c si ti pid cons, op = .getOffset c si ti pid cons)) :
    (step y op).2.2.length ≤ 1 := by
  rcases hop with ⟨si, ti, p, m, rfl⟩ | ⟨c, si, ti, pid, cons, k, n, a, rfl⟩ | ⟨c, si, ti, pid, cons, o, rfl⟩ |
    ⟨c, si, ti, pid, cons, rfl⟩ | ⟨c, si, ti, pid, cons, rfl⟩
  · simp only [step, Sys.withTopic]
    repeat' split
    any_goals exact Nat.zero_le _
    rename_i t _
    rcases t.send_cases y.cfg y.scfg _ y.now p m with ⟨cur, out, he⟩ | ⟨cur, pid, p, p', _, _, _, he⟩ <;> rw [he]
    · exact Nat.zero_le _
    · exact Nat.le_refl _
  -- every leaf reports `[]` or a single effect
  all_goals simp only [step, Sys.withTopic]
  all_goals repeat' split
  all_goals first | exact Nat.zero_le _ | exact Nat.le_refl _

example : (step ex opPoll).2.2.length = 1 ∧ (step ex opSend).2.2.length = 1 := by decide +kernel

/-! ## 4. effects name what changed -/

/-- **effects_name_what_changed** — for every operation other than the four quiet ones (`flush`,
`evict`, `save`, `maintain`), `restart` included: a partition key that no effect of the step names
holds the same `Part` value — or is absent — before and after.  (So a specification state evolved
from the effects alone misses no change of any partition.) -/
theorem effects_name_what_changed {y : Sys} (h : y.CatWF) (op : Op) (hq : op.quiet = false) (k : PKey)
    (hc : ∀ e ∈ (step y op).2.2, e.key ≠ k) : (step y op).1.part? k = y.part? k :=
  step_effects_name_changes h op hq k hc

/-- deleting topic 1 of stream 1 names exactly its two partitions; the two others are untouched -/
example : (step ex opDelTopic).2.2.map Effect.key = [(1, 1, 1), (1, 1, 2)] ∧
    (step ex opDelTopic).1.part? (1, 2, 1) = ex.part? (1, 2, 1) ∧ (step ex opDelTopic).1.part? (2, 1, 1) = ex.part? (2, 1, 1) ∧
    (step ex opDelTopic).1.part? (1, 1, 1) = none := by decide +kernel
example : (step ex (.restart [])).2.2.map Effect.key = ex.allKeys := by decide +kernel

/-- the same, read the other way: a partition that differs, appears or disappears is named by an effect -/
theorem changed_partition_is_named {y : Sys} (h : y.CatWF) (op : Op) (hq : op.quiet = false) (k : PKey)
    (hd : (step y op).1.part? k ≠ y.part? k) : ∃ e ∈ (step y op).2.2, e.key = k := by
  apply Classical.byContradiction
  intro hn
  exact hd (effects_name_what_changed h op hq k (fun e he hk => hn ⟨e, he, hk⟩))

example : (step ex (.purgeStream (.num 1))).2.2.map Effect.key = [(1, 1, 1), (1, 1, 2), (1, 2, 1)] ∧
    (step ex (.purgeStream (.num 1))).1.part? (2, 1, 1) = ex.part? (2, 1, 1) := by decide +kernel

/-- the exceptions, exactly.  `flush` rewrites the named partition by `Part.flush` (buffer to disk) … -/
theorem flush_exact {y : Sys} (h : y.CatWF) (si ti : Ident) (k : Nat) {s : Stream} {t : Topic}
    (hs : y.findStream si = .ok s) (ht : s.findTopic ti = .ok t) :
    (step y (.flush si ti k)).1.part? (s.id, t.id, k) = (y.part? (s.id, t.id, k)).map (fun p => p.flush y.cfg) ∧
    (step y (.flush si ti k)).2.2 = [] := by
  have hk := h.find_stream hs
  have hkt := h.find_topic hs ht
  rw [show y.part? (s.id, t.id, k) = find? t.parts k from partOf_of_find hk hkt k]
  exact withPart_put_part y k _ hs ht hk hkt rfl

/-- the exception is necessary: `flush` changes a partition and reports nothing -/
theorem quiet_flush_unreported : ¬ ∀ (y : Sys), y.CatWF → ∀ (op : Op) (k : PKey),
    (∀ e ∈ (step y op).2.2, e.key ≠ k) → (step y op).1.part? k = y.part? k := by
  intro h
  have := h ex ex_wf (.flush (.num 1) (.num 1) 1) (1, 1, 1) (by decide)
  revert this; decide

/-- … `evict` rewrites it by `Part.evict` … -/
theorem evict_exact {y : Sys} (h : y.CatWF) (si ti : Ident) (k keep : Nat) {s : Stream} {t : Topic}
    (hs : y.findStream si = .ok s) (ht : s.findTopic ti = .ok t) :
    (step y (.evict si ti k keep)).1.part? (s.id, t.id, k) = (y.part? (s.id, t.id, k)).map (fun p => p.evict keep) ∧
    (step y (.evict si ti k keep)).2.2 = [] := by
  have hk := h.find_stream hs
  have hkt := h.find_topic hs ht
  rw [show y.part? (s.id, t.id, k) = find? t.parts k from partOf_of_find hk hkt k]
  exact withPart_put_part y k _ hs ht hk hkt rfl

/-- … and so does `evict` (the cache held one message) -/
example : (step ex (.evict (.num 1) (.num 1) 1 0)).1.part? (1, 1, 1) ≠ ex.part? (1, 1, 1) ∧
    (step ex (.evict (.num 1) (.num 1) 1 0)).2.2.length = 0 ∧
    ((step ex (.evict (.num 1) (.num 1) 1 0)).1.part? (1, 1, 1)).map (·.cache) = some (some []) ∧
    (ex.part? (1, 1, 1)).map (fun p => p.cache.map (·.length)) = some (some 1) := by decide +kernel

/-- … which changes the `cache` field and nothing else … -/
theorem evict_only_cache (p : Part) (keep : Nat) : p.evict keep = { p with cache := (p.evict keep).cache } := rfl

/-- … and `save` rewrites every partition by `Part.save` (all buffers to disk).  Together with
targets 1–3 (`flush` / `evict` touch only the partition they name) this is all a quiet operation does;
`maintain` reports a `dropped` effect for a partition exactly when its retained message count shrinks
(`Topic.maintain`) and is local to each topic (`maintain_topic_local`). -/
theorem save_exact (y : Sys) (k : PKey) :
    (step y .save).1.part? k = (y.part? k).map (fun p => p.save y.cfg) ∧ (step y .save).2.2 = [] := by
  refine ⟨?_, rfl⟩
  obtain ⟨a, b, c⟩ := k
  simp only [step, Sys.mapAllParts, Sys.mapStreams, Stream.mapTopics, Topic.mapPartsK, Sys.part?, partOf, topicOf]
  rw [find?_map_snd (fun se : Nat × Stream => _) y.streams a]
  cases find? y.streams a with
  | none => rfl
  | some s =>
    simp only [Option.map_some, Option.bind_some]
    rw [find?_map_snd (fun te : Nat × Topic => _) s.topics b]
    cases find? s.topics b with
    | none => rfl
    | some t =>
      simp only [Option.map_some, Option.bind_some]
      rw [find?_map_snd (fun pe : Nat × Part => _) t.parts c]

example : (step ex .save).1.part? (2, 1, 1) ≠ ex.part? (2, 1, 1) ∧ (step ex .save).2.2.length = 0 := by decide +kernel

/-! ## 4b. other consumers, other groups, memberships -/

/-- **offsets of other consumers** — `storeOffset`, `deleteOffset` and an (auto-committing) `poll` for
consumer `cons` change, in any partition of the named topic, at most the stored offset of `cons`
itself: the partition's messages, cache and counters, and the stored offset of every other consumer
and every other group, are as before (`OffsetOnly`); partitions outside the named topic are covered
by targets 1–2 -/
theorem other_consumer_offsets_untouched {y : Sys} (h : y.CatWF) (op : Op) (cons : Consumer) {si ti : Ident}
    {s : Stream} {t : Topic}
    (hop : (∃ c pid k n a, op = .poll c si ti pid cons k n a) ∨ (∃ c pid o, op = .storeOffset c si ti pid cons o) ∨
      (∃ c pid, op = .deleteOffset c si ti pid cons))
    (hs : y.findStream si = .ok s) (ht : s.findTopic ti = .ok t) (c : Nat) :
    OffsetOnlyOpt cons.grp cons.id (y.part? (s.id, t.id, c)) ((step y op).1.part? (s.id, t.id, c)) := by
  have hk := h.find_stream hs
  have hkt := h.find_topic hs ht
  rw [show y.part? (s.id, t.id, c) = find? t.parts c from partOf_of_find hk hkt c]
  rcases hop with ⟨cc, pid, k, n, a, rfl⟩ | ⟨cc, pid, o, rfl⟩ | ⟨cc, pid, rfl⟩
  all_goals exact (step_topic_frame y _ si ti s t rfl rfl hs ht hk hkt).offsets cons rfl c

/-- consumer 6 stores an offset in partition 2: consumer 5's offset there stays -/
example : ((step ex (.storeOffset 7 (.num 1) (.num 1) (some 2) ⟨false, 6⟩ 0)).1.part? (1, 1, 2)).map (·.consOffs) =
      some [(6, 0), (5, 0)] ∧
    ((step ex (.storeOffset 7 (.num 1) (.num 1) (some 2) ⟨false, 6⟩ 0)).1.part? (1, 1, 2)).bind (·.getOffset false 5) =
      (ex.part? (1, 1, 2)).bind (·.getOffset false 5) ∧
    (ex.part? (1, 1, 2)).bind (·.getOffset false 5) = some 0 := by decide +kernel

/-- **other_group_untouched** — `deleteGroup`, `join`, `leave`, `groupInfo` on group `g` of topic `t`
leave every other consumer group of `t` as it was (members, shares, rotation cursors) -/
theorem other_group_untouched {y : Sys} (h : y.CatWF) (op : Op) {si ti gi : Ident} {s : Stream} {t : Topic} {g : Group}
    (hop : op.stream? = some si) (hop' : op.topic? = some ti) (hop'' : op.group? = some gi)
    (hs : y.findStream si = .ok s) (ht : s.findTopic ti = .ok t) (hg : t.findGroup gi = .ok g)
    {gid' : Nat} (hne : gid' ≠ g.id) :
    groupOf (step y op).1.streams (s.id, t.id, gid') = groupOf y.streams (s.id, t.id, gid') := by
  rw [step_groups_agreeOff y op si ti gi s t g hop hop' hop'' hs ht hg gid' hne]
  simp [groupOf, topicOf, h.find_stream hs, h.find_topic hs ht]

example : groupOf (step (step ex (.createGroup (.num 1) (.num 1) (some 2) "g2")).1 (.leave 7 (.num 1) (.num 1) (.num 1))).1.streams (1, 1, 2) =
      groupOf (step ex (.createGroup (.num 1) (.num 1) (some 2) "g2")).1.streams (1, 1, 2) ∧
    (groupOf (step ex (.leave 7 (.num 1) (.num 1) (.num 1))).1.streams (1, 1, 1)).map (fun g => g.members.map (·.id)) =
      some [80] := by decide +kernel

/-- an operation (other than the quiet four) that reports no effect changes no partition: in particular
`join`, `leave`, `groupInfo`, `groups`, `createGroup`, `me`, `close`, every refused command and every query -/
theorem no_effect_no_partition_change {y : Sys} (h : y.CatWF) (op : Op) (hq : op.quiet = false)
    (he : (step y op).2.2 = []) (k : PKey) : (step y op).1.part? k = y.part? k :=
  effects_name_what_changed h op hq k (by rw [he]; intro e he'; cases he')

example : (step ex (.join 8 (.num 2) (.num 1) (.num 1))).2.2.length = 0 ∧
    (step ex (.join 8 (.num 2) (.num 1) (.num 1))).1.stream? 2 ≠ ex.stream? 2 ∧
    ∀ k ∈ ex.allKeys, (step ex (.join 8 (.num 2) (.num 1) (.num 1))).1.part? k = ex.part? k := by decide +kernel

/-- `join` / `leave` on connection `c` change, outside the stream table, only the membership list of
`c`'s own client -/
theorem join_leave_own_memberships (y : Sys) (op : Op) (c : Nat)
    (hop : (∃ si ti gi, op = .join c si ti gi) ∨ (∃ si ti gi, op = .leave c si ti gi)) :
    (∀ cl, cl ≠ y.clientOf c → find? (step y op).1.memberships cl = find? y.memberships cl) ∧
    (step y op).1.clients = y.clients := by
  rcases hop with ⟨si, ti, gi, rfl⟩ | ⟨si, ti, gi, rfl⟩
  all_goals simp only [step, Sys.withTopic]
  all_goals repeat' split
  all_goals refine ⟨?_, rfl⟩
  all_goals first
    | exact AgreeOff.refl _ _
    | exact (AgreeOff.refl _ _).insert _
    | exact fun k' hk' => find?_map_if_ne _ _ _ (List.filter _) hk'

example : find? (step ex (.leave 7 (.num 1) (.num 1) (.num 1))).1.memberships 80 = find? ex.memberships 80 ∧
    find? (step ex (.leave 7 (.num 1) (.num 1) (.num 1))).1.memberships 70 = some [(2, 1, 1)] ∧
    find? ex.memberships 70 = some [(1, 1, 1), (2, 1, 1)] := by decide +kernel

/-! ## 5. the authentication layer -/

/-- **other_user_untouched** — an operation that names user `u` (`deleteUser`, `updateUser`,
`updatePerms`, `changePw`, `userInfo`; by id or by name) leaves every other user's record as it was,
touches no session of any connection — `deleteUser` included: open sessions of the deleted user keep
their user id — and nothing of the core system.  Holds for every state. -/
theorem other_user_untouched (a : ASys) (op : AOp) {ui : Ident} {u : User} (hop : op.user? = some ui)
    (hu : a.findUser ui = some u) :
    (∀ u', u' ≠ u.id → find? (stepA a op).1.users u' = find? a.users u') ∧
    (stepA a op).1.sessions = a.sessions ∧ (stepA a op).1.sys = a.sys := by
  rw [stepA_fst]; exact stepA0_user_frame a op ui u hop hu

/-- deleting `bob` (2): `eve` (3) and root keep their records; `bob`'s open session on connection 2 stays -/
example : find? (stepA exA opDelUser).1.users 3 = find? exA.users 3 ∧ find? (stepA exA opDelUser).1.users 1 = find? exA.users 1 ∧
    find? (stepA exA opDelUser).1.users 2 = none ∧ (stepA exA opDelUser).1.sessions = [(1, 1), (2, 2)] ∧
    (stepA exA opDelUser).2.1 = .ok := by decide +kernel
example : find? (stepA exA (.changePw 2 (.num 2) "pw" "new")).1.users 3 = find? exA.users 3 ∧
    (find? (stepA exA (.changePw 2 (.num 2) "pw" "new")).1.users 2).map (·.pw) = some "new" := by decide +kernel

/-- in a well-formed user table the resolved user is the entry under its id -/
theorem named_user_is_entry {a : ASys} (h : a.UWF) {ui : Ident} {u : User} (hu : a.findUser ui = some u) :
    find? a.users u.id = some u := ASys.findUser_find? h hu

example : (exA.findUser (.name "bob")).map (·.id) = some 2 ∧ (find? exA.users 2).map (·.name) = some "bob" := by decide +kernel

/-- a user identifier that does not resolve: nothing changes -/
theorem unresolved_user_changes_nothing (a : ASys) (op : AOp) {ui : Ident} (hop : op.user? = some ui)
    (hu : a.findUser ui = none) : (stepA a op).1 = a := by
  rw [stepA_fst]; exact stepA0_user_unresolved a op ui hop hu

example : (stepA exA (.deleteUser 1 (.name "zz"))).1.users = exA.users ∧
    (stepA exA (.deleteUser 1 (.name "zz"))).2.1 = .err "resource_not_found" := by decide +kernel

/-- `createUser` only adds a record: every existing user's record stays, no session and nothing of the
core system is touched -/
theorem createUser_keeps_existing {a : ASys} (h : a.UWF) (c : Nat) (name pw : String) (active : Bool)
    (perms : Option Permissions) :
    (∀ k u, find? a.users k = some u → find? (stepA a (.createUser c name pw active perms)).1.users k = some u) ∧
    (stepA a (.createUser c name pw active perms)).1.sessions = a.sessions ∧
    (stepA a (.createUser c name pw active perms)).1.sys = a.sys := by
  rw [stepA_fst]
  by_cases hr : Refused a (stepA0 a (.createUser c name pw active perms))
  · rw [hr.fst]; exact ⟨fun _ _ hk => hk, rfl, rfl⟩
  · rw [(stepA0_createUser_ok hr).2.2.2]
    refine ⟨fun k u hk => ?_, rfl, rfl⟩
    -- the new user is stored at the cursor, beyond every id in use
    rw [← hk]
    exact find?_insertAsc_ne _ _ (Nat.ne_of_lt (h.fresh _ (mem_of_find? hk)))

example : (∀ k ∈ [1, 2, 3], find? (stepA exA (.createUser 1 "dan" "pw" true none)).1.users k = find? exA.users k) ∧
    (find? (stepA exA (.createUser 1 "dan" "pw" true none)).1.users 4).map (·.name) = some "dan" := by decide +kernel

/-- personal-access-token operations on connection `c` act on the record of `c`'s own user only -/
theorem token_ops_own_user (a : ASys) (op : AOp) (c : Nat) {u : User}
    (hop : (∃ n e, op = .createPat c n e) ∨ (∃ n, op = .deletePat c n) ∨ op = .pats c)
    (hu : find? a.users (a.userOf c) = some u) :
    (∀ u', u' ≠ u.id → find? (stepA a op).1.users u' = find? a.users u') ∧
    (stepA a op).1.sessions = a.sessions ∧ (stepA a op).1.sys = a.sys := by
  rw [stepA_fst]; exact stepA0_pat_frame a op c u hop hu

example : find? (stepA exA (.createPat 2 "tk" none)).1.users 1 = find? exA.users 1 ∧
    find? (stepA exA (.createPat 2 "tk" none)).1.users 3 = find? exA.users 3 ∧
    (find? (stepA exA (.createPat 2 "tk" none)).1.users 2).map (·.tokens.length) = some 1 := by decide +kernel

/-- `login` / `loginPat` / `logout` on connection `c` change only `sessions`, and there only the
entry of `c` -/
theorem login_logout_only_own_session (a : ASys) (op : AOp) (c : Nat)
    (hop : (∃ n p, op = .login c n p) ∨ (∃ k, op = .loginPat c k) ∨ op = .logout c) :
    (stepA a op).1 = { a with sessions := (stepA a op).1.sessions } ∧
    ∀ c', c' ≠ c → find? (stepA a op).1.sessions c' = find? a.sessions c' := by
  rw [stepA_fst]; exact stepA0_login_frame a op c hop

example : (stepA exA (.logout 2)).1.sessions = [(1, 1)] ∧ (stepA exA (.login 3 "eve" "pw")).1.sessions = [(1, 1), (2, 2), (3, 3)] ∧
    (stepA exA (.login 3 "eve" "pw")).1.users = exA.users := by decide +kernel

/-- no operation except a restart of the core system (which drops all sessions) touches the session
of a connection other than the one it is issued on -/
theorem other_sessions_untouched (a : ASys) (op : AOp) (hop : ∀ c cl, op ≠ .core c (.restart cl)) {c' : Nat}
    (hc : op.conn? ≠ some c') : find? (stepA a op).1.sessions c' = find? a.sessions c' := by
  rw [stepA_fst]
  rcases stepA0_sessions a op hop with h | ⟨c, hc', hag⟩
  · rw [h]
  · refine hag c' (fun h => hc ?_)
    subst h
    rcases hc' with ⟨n, p, rfl⟩ | ⟨k, rfl⟩ | rfl | ⟨cc, rfl⟩ <;> rfl

example : find? (stepA exA (.core 2 (.close 2))).1.sessions 1 = some 1 ∧
    find? (stepA exA (.core 2 (.close 2))).1.sessions 2 = none := by decide +kernel

/-- only `login`, `loginPat`, `logout`, `close` and `restart` touch sessions at all -/
theorem sessions_touched_only_by (a : ASys) (op : AOp)
    (h1 : ∀ c n p, op ≠ .login c n p) (h2 : ∀ c k, op ≠ .loginPat c k) (h3 : ∀ c, op ≠ .logout c)
    (h4 : ∀ c cc, op ≠ .core c (.close cc)) (h5 : ∀ c cl, op ≠ .core c (.restart cl)) :
    (stepA a op).1.sessions = a.sessions := by
  rw [stepA_fst]
  rcases stepA0_sessions a op h5 with h | ⟨c, ⟨n, p, rfl⟩ | ⟨k, rfl⟩ | rfl | ⟨cc, rfl⟩, _⟩
  · exact h
  · exact absurd rfl (h1 c n p)
  · exact absurd rfl (h2 c k)
  · exact absurd rfl (h3 c)
  · exact absurd rfl (h4 c cc)

example : (stepA exA (.updatePerms 1 (.num 2) (some Permissions.root))).1.sessions = exA.sessions ∧
    (find? (stepA exA (.updatePerms 1 (.num 2) (some Permissions.root))).1.users 2).map (·.perms) ≠
      (find? exA.users 2).map (·.perms) := by decide +kernel

/-- a core operation issued through the authentication layer acts on the core system exactly as
`step` does, or is refused and changes nothing: targets 1–4 lift to `stepA` -/
theorem core_op_on_sys (a : ASys) (c : Nat) (op : Op) :
    (stepA a (.core c op)).1.sys = (step a.sys op).1 ∨ (stepA a (.core c op)).1 = a := by
  rw [stepA_fst]
  by_cases hr : ∃ cl, op = .restart cl
  · obtain ⟨cl, rfl⟩ := hr
    exact .inl rfl
  · rcases stepA0_core a c op (fun cl h => hr ⟨cl, h⟩) with h | ⟨h, _⟩ | ⟨h, _⟩
    · exact .inr h
    · exact .inl (by rw [h])
    · exact .inl (by rw [h])

example : (stepA exA (.core 1 opSend)).1.sys.streams = (step exA.sys opSend).1.streams ∧
    (stepA exA (.core 9 opSend)).2.1 = .err "unauthenticated" ∧
    (stepA exA (.core 9 opSend)).1.sys.streams = exA.sys.streams := by decide +kernel

end Iggy.Props.Frame

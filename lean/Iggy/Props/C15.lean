/-
C15 — a topic's size limit is enforced as configured.
Model: `Topic.send` (topics/messages.rs append_messages: the gate, after fix d64acc2), `Topic.isFull`,
`resolveMax` (Topic::get_max_topic_size), `Part.deleteOldest` (maintain_messages.rs get_oldest_segments +
delete_segments).
-/
import Iggy.Sys.SendLemmas
import Iggy.Log.RefineRun
namespace Iggy.Props.C15
open Iggy.Sys Iggy.Log

theorem errOf_ne_full (e : Log.Err) : errOf e ≠ "topic_full" := by cases e <;> simp [errOf]

/-- A send is refused with topic-full exactly when the topic has partitions, is at or above its limit
and deletion of oldest segments is disabled. -/
theorem gate (t : Topic) (cfg : Cfg) (sc : SCfg) (sid now : Nat) (part : Partitioning) (msgs : List InMsg) :
    (t.send cfg sc sid now part msgs).2.1 = .err "topic_full" ↔
      (t.parts.isEmpty = false ∧ t.isFull = true ∧ sc.deleteOldest = false) := by
  rw [Topic.send_eq]
  split
  · next h => simp [h]
  split
  · next h1 h2 => simpa [h1] using h2
  next h1 h2 =>
  -- past the gate no outcome is topic-full
  refine iff_of_false ?_ (fun h => h2 (by simp [h.2]))
  split
  · simp
  split
  · simp
  split
  · simpa using errOf_ne_full _
  · simp

/-- a refused send changes nothing: the topic is unchanged and no partition is touched -/
theorem refused_changes_nothing (t : Topic) (cfg : Cfg) (sc : SCfg) (sid now : Nat) (part : Partitioning)
    (msgs : List InMsg) (hp : t.parts.isEmpty = false) (hf : t.isFull = true) (hd : sc.deleteOldest = false) :
    t.send cfg sc sid now part msgs = (t, .err "topic_full", []) := by
  unfold Topic.send; simp [hp, hf, hd]

/-- `isFull` is the configured comparison: unlimited topics are never full, a limited topic is full
exactly when its size is at or above the limit -/
theorem isFull_iff (t : Topic) : t.isFull = true ↔ ∃ m, t.maxSize = some m ∧ m ≤ t.size := by
  unfold Topic.isFull
  cases t.maxSize with
  | none => simp
  | some m => simp

/-- below the limit, for unlimited topics, and when oldest-segment deletion is enabled, a send is never
refused with topic-full -/
theorem below_or_unlimited_or_deleting_accepts (t : Topic) (cfg : Cfg) (sc : SCfg) (sid now : Nat)
    (part : Partitioning) (msgs : List InMsg)
    (h : t.maxSize = none ∨ (∃ m, t.maxSize = some m ∧ t.size < m) ∨ sc.deleteOldest = true) :
    (t.send cfg sc sid now part msgs).2.1 ≠ .err "topic_full" := by
  intro hc
  have := (gate t cfg sc sid now part msgs).mp hc
  rcases h with h | ⟨m, hm, hlt⟩ | h
  · obtain ⟨m, hm, _⟩ := (isFull_iff t).mp this.2.1; rw [h] at hm; cases hm
  · obtain ⟨m', hm', hle⟩ := (isFull_iff t).mp this.2.1; rw [hm] at hm'; cases hm'; omega
  · rw [h] at this; exact absurd this.2.2 (by simp)

/-- a limit smaller than one segment is rejected when the topic is created or updated (both go through
`resolveMax`) -/
theorem small_limit_rejected (cfg : Cfg) (sc : SCfg) (b : Nat) (h : b < cfg.segSize) :
    resolveMax cfg sc (.custom b) = .error "invalid_topic_size" := by
  unfold resolveMax; simp; omega

theorem valid_limit_accepted (cfg : Cfg) (sc : SCfg) (b : Nat) (h : cfg.segSize ≤ b) :
    resolveMax cfg sc (.custom b) = .ok (some b) := by
  unfold resolveMax; simp [h]

/-- With deletion enabled a maintenance pass on an almost-full topic removes only the oldest closed
segment of a partition — never the newest data — and offsets keep increasing (`next` unchanged). -/
theorem oldest_only {cfg : Cfg} {p : Part} (hseg : 0 < cfg.segSize) (r : Reach cfg p) (now : Nat) :
    ∃ n, abs (p.deleteOldest cfg now) = (abs p).dropPrefix n ∧ (p.deleteOldest cfg now).next = p.next ∧
      ∀ m ∈ p.msgs.take n, ∃ s, p.segs.head? = some s ∧ s.closed = true ∧ m ∈ s.msgs := by
  obtain ⟨n, _, h2, h3, h4⟩ := deleteOldest_refines (r.inv hseg) now
  exact ⟨n, h2, h3, h4⟩

/-- the open (last) segment is never removed by size clean-up when it is the only one -/
theorem open_segment_kept {cfg : Cfg} (p : Part) (now : Nat) (s : Seg) (h : p.segs.head? = some s)
    (ho : s.closed = false) : p.deleteOldest cfg now = p := by
  unfold Part.deleteOldest; simp [h, ho]

/-! non-vacuity -/
def t0 : Topic := { id := 1, name := "t", parts := [(1, Part.create rxCfg none 0)], expiry := none,
                    maxSize := some 0, repl := 1, cursor := 1 }
example : (t0.send rxCfg ⟨false, none, none⟩ 1 5 (.pid 1) [⟨1, 50, 1⟩]).2.1 = .err "topic_full" := by decide
example : (t0.send rxCfg ⟨true, none, none⟩ 1 5 (.pid 1) [⟨1, 50, 1⟩]).2.1 = .ok := by decide

end Iggy.Props.C15

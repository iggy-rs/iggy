/- C20 helpers: the consumer's primitives on the states that occur (one partition), the server's poll as a run of
messages (`msgRun`, `Srv.polled`), and the poll event of the composition (`step_poll_fresh`, `step_poll_going`) -/
import Iggy.Sdk.Spec
namespace Iggy.Sdk

@[simp] theorem OffMap.get?_nil (k : Nat) : OffMap.get? [] k = none := rfl
@[simp] theorem OffMap.get?_single (k v : Nat) : OffMap.get? [(k, v)] k = some v := by
  simp [OffMap.get?]
@[simp] theorem OffMap.set_nil (k v : Nat) : OffMap.set [] k v = [(k, v)] := rfl
@[simp] theorem OffMap.set_single (k v w : Nat) : OffMap.set [(k, v)] k w = [(k, w)] := by
  simp [OffMap.set]

@[simp] theorem msgAt_off (o : Nat) : (msgAt o).off = o := rfl

theorem filter_run (st k l : Nat) :
    ((List.range' st k).map msgAt).filter (fun m => m.off > l) =
      (List.range' (max st (l + 1)) (st + k - max st (l + 1))).map msgAt := by
  induction k generalizing st with
  | zero => rw [show st + 0 - max st (l + 1) = 0 from Nat.sub_eq_zero_of_le (Nat.le_max_left ..)]; rfl
  | succ k ih =>
    rw [List.range'_succ, List.map_cons, List.filter_cons, ih]
    by_cases h : l < st
    · rw [if_pos (by simpa using h), Nat.max_eq_left h, Nat.max_eq_left (Nat.le_succ_of_le h),
        show st + (k + 1) - st = st + 1 + k - (st + 1) + 1 by omega, List.range'_succ, List.map_cons]
    · have h := Nat.le_of_not_lt h
      rw [if_neg (by simpa using h), Nat.max_eq_right (Nat.le_succ_of_le h), Nat.max_eq_right (Nat.succ_le_succ h),
        Nat.add_right_comm, Nat.add_assoc]

theorem onReply_empty (cfg : CCfg) (c : Cons) (r : Reply) (h : r.msgs = []) :
    c.onReply cfg r = (c, r, none) := by
  simp [Cons.onReply, h]

theorem onReply_fresh (cfg : CCfg) (c : Cons) (r : Reply) (hc : c.consumed = []) (hs : c.stored = [])
    (h : r.msgs ≠ []) :
    c.onReply cfg r = ({ c with consumed := [(r.pid, 0)], stored := [(r.pid, 0)] }, r, none) := by
  have h' : r.msgs.isEmpty = false := by simpa using h
  simp [Cons.onReply, h', hc, hs]

theorem onReply_has (cfg : CCfg) (hrep : cfg.replay = false) (c : Cons) (r : Reply) (l : Nat)
    (hc : c.consumed = [(r.pid, l)]) (h : r.msgs ≠ []) (hcur : ∀ m ∈ r.msgs, m.off ≤ r.cur) :
    c.onReply cfg r =
      if r.msgs.filter (fun m => m.off > l) = [] then
        if cfg.autoCommitEnabled && !cfg.polling && ((c.stored.get? r.pid).getD 0 < l || c.strat == .next) then
          ({ c with stored := c.stored.set r.pid l }, { r with msgs := [] }, some (r.pid, l))
        else (c, { r with msgs := [] }, none)
      else
        ({ c with stored := if cfg.polling then c.stored.set r.pid l else
            (match c.stored.get? r.pid with | some _ => c.stored | none => c.stored.set r.pid 0) },
         { r with msgs := r.msgs.filter (fun m => m.off > l) }, none) := by
  have h' : r.msgs.isEmpty = false := by simpa using h
  obtain ⟨strat, buffered, curPart, consumed, stored, pending⟩ := c
  simp only at hc; subst hc
  have hcl : r.msgs.filter (fun m => m.off > l) ≠ [] → (r.cur == l) = false := by
    intro hf
    cases hfl : r.msgs.filter (fun m => m.off > l) with
    | nil => exact absurd hfl hf
    | cons m t =>
      have hm : m ∈ r.msgs.filter (fun m => m.off > l) := by rw [hfl]; simp
      simp only [List.mem_filter, gt_iff_lt, decide_eq_true_eq] at hm
      have := hcur m hm.1
      simp; omega
  unfold Cons.onReply
  simp only [h', hrep, OffMap.get?_single]
  generalize r.msgs.filter (fun m => m.off > l) = f at hcl ⊢
  cases f with
  | nil => simp
  | cons m t =>
    have := hcl (by simp)
    cases OffMap.get? stored r.pid <;> cases cfg.polling <;> simp [this]

def nextStrat (s : Strat) (off : Nat) : Strat :=
  match s with
  | .offset _ => .offset (off + 1)
  | s => s

def commitNow (cfg : CCfg) (off : Nat) : Bool := (cfg.nth > 0 && off % cfg.nth == 0) || cfg.eachMsg

theorem pop_nil (cfg : CCfg) (c : Cons) (h : c.buffered = []) : c.pop cfg = none := by
  simp [Cons.pop, h]

theorem pop_cons (cfg : CCfg) (c : Cons) (m : PMsg) (rest : List PMsg) (h : c.buffered = m :: rest) :
    c.pop cfg = some ({ c with
      buffered := rest
      consumed := c.consumed.set c.curPart m.off
      strat := if rest.isEmpty then nextStrat c.strat m.off else c.strat
      pending := c.pending ++ (if commitNow cfg m.off then [(c.curPart, m.off)] else []) ++
        (if rest.isEmpty && cfg.afterAll then [(c.curPart, m.off)] else []) }, ⟨c.curPart, m⟩) := by
  obtain ⟨strat, buffered, curPart, consumed, stored, pending⟩ := c
  simp only at h; subst h
  rcases Bool.eq_false_or_eq_true (decide (cfg.nth > 0) && m.off % cfg.nth == 0 || cfg.eachMsg) with h1 | h1 <;>
  rcases Bool.eq_false_or_eq_true rest.isEmpty with h2 | h2 <;>
  rcases Bool.eq_false_or_eq_true cfg.afterAll with h3 | h3 <;>
  cases strat <;> simp [Cons.pop, commitNow, nextStrat, h1, h2, h3]

theorem onPolled_nil (cfg : CCfg) (c : Cons) (r : Reply) (h : r.msgs = []) :
    c.onPolled cfg r = ({ c with curPart := r.pid }, none) := by
  simp [Cons.onPolled, h]

theorem onPolled_cons (cfg : CCfg) (c : Cons) (r : Reply) (m : PMsg) (rest : List PMsg) (h : r.msgs = m :: rest) :
    c.onPolled cfg r = ({ c with
      curPart := r.pid
      buffered := c.buffered ++ rest
      strat := nextStrat c.strat m.off
      consumed := c.consumed.set r.pid m.off
      pending := c.pending ++ (if commitNow cfg m.off || (cfg.afterAll && (c.buffered ++ rest).isEmpty)
        then [(r.pid, m.off)] else []) }, some ⟨r.pid, m⟩) := by
  have hcn : ((decide (cfg.nth > 0) && m.off % cfg.nth == 0) || cfg.eachMsg) = commitNow cfg m.off := rfl
  simp only [Cons.onPolled, h, hcn]
  -- the two case distinctions of the definition: the strategy, the commit condition
  split <;> split <;> simp_all [nextStrat]

def localStored (c : Cons) (p : Nat) : Nat := (c.stored.get? p).getD 0

/-- the map after `store_consumer_offset` looked at it: an absent entry is created as 0 -/
def touched (c : Cons) (p : Nat) : OffMap :=
  match c.stored.get? p with
  | some _ => c.stored
  | none => c.stored.set p 0

theorem storeReq_eq (c : Cons) (p o : Nat) :
    c.storeReq p o false =
      ({ c with stored := touched c p }, !(decide (o ≤ localStored c p) && decide (1 ≤ o))) := by
  unfold Cons.storeReq localStored touched
  cases hs : c.stored.get? p <;> simp <;> split <;> simp_all <;> omega

theorem storeOne_skip (c : Cons) (s : Srv) (p o : Nat) (h : o ≤ localStored c p) (h1 : 1 ≤ o) :
    storeOne c s p o = ({ c with stored := touched c p }, s, []) := by
  simp [storeOne, storeReq_eq, h, h1]

theorem storeOne_send (c : Cons) (s : Srv) (p o : Nat) (h : localStored c p < o ∨ o = 0) (hlen : o < s.len) :
    storeOne c s p o =
      ({ c with stored := (touched c p).set p o }, { s with stored := some o }, [.store o true]) := by
  have : (decide (o ≤ localStored c p) && decide (1 ≤ o)) = false := by
    simp; omega
  simp [storeOne, storeReq_eq, this, Srv.store, hlen, Cons.storeAck]

/-- for the invariants that do not look at the client's `stored` map -/
theorem storeOne_cases (c : Cons) (s : Srv) (p o : Nat) (hlen : o < s.len) :
    ∃ st', storeOne c s p o = ({ c with stored := st' }, s, []) ∨
      storeOne c s p o = ({ c with stored := st' }, { s with stored := some o }, [.store o true]) := by
  by_cases h : localStored c p < o ∨ o = 0
  · exact ⟨_, Or.inr (storeOne_send c s p o h hlen)⟩
  · exact ⟨_, Or.inl (storeOne_skip c s p o (by omega) (by omega))⟩

/-! ## the server: `resume`, runs of messages, `poll`, `store` -/

theorem resume_le_iff {stored : Option Nat} {x : Nat} : resume stored ≤ x + 1 ↔ ∀ so, stored = some so → so ≤ x := by
  cases stored with
  | none => exact ⟨fun _ _ e => (nomatch e), fun _ => Nat.zero_le _⟩
  | some so => exact ⟨fun h _ e => Option.some.inj e ▸ Nat.le_of_succ_le_succ h, fun h => Nat.succ_le_succ (h so rfl)⟩

def msgRun (st e : Nat) : List PMsg := (List.range' st (e - st)).map msgAt

theorem msgRun_nil {st e : Nat} (h : e ≤ st) : msgRun st e = [] := by
  rw [msgRun, Nat.sub_eq_zero_of_le h]; rfl

theorem msgRun_cons {st e : Nat} (h : st < e) : msgRun st e = msgAt st :: msgRun (st + 1) e := by
  rw [msgRun, show e - st = e - (st + 1) + 1 by omega, List.range'_succ, List.map_cons]; rfl

theorem mem_msgRun {st e : Nat} {m : PMsg} : m ∈ msgRun st e ↔ ∃ o, (st ≤ o ∧ o < e) ∧ msgAt o = m := by
  rw [msgRun, List.mem_map]
  refine exists_congr fun o => and_congr_left fun _ => ?_
  rw [List.mem_range'_1]; omega

def Srv.polled (s : Srv) (auto : Bool) (st e : Nat) : Srv :=
  if auto && st < e then { s with stored := some (e - 1) } else s

theorem Srv.polled_len (s : Srv) (auto : Bool) (st e : Nat) : (s.polled auto st e).len = s.len := by
  unfold Srv.polled; split <;> rfl

theorem Srv.polled_same (s : Srv) {auto : Bool} {st e : Nat} (h : auto = false ∨ e ≤ st) : s.polled auto st e = s := by
  refine if_neg ?_
  rcases h with h | h
  · simp [h]
  · simp [Nat.not_lt.mpr h]

theorem Srv.polled_stored (s : Srv) {auto : Bool} {st e : Nat} (h : auto = true) (hlt : st < e) :
    (s.polled auto st e).stored = some (e - 1) := by
  simp [Srv.polled, h, hlt]

theorem Srv.polled_stored_le (s : Srv) (auto : Bool) {st e x : Nat} (hx : ∀ so, s.stored = some so → so ≤ x)
    (hex : st < e → e - 1 ≤ x) : ∀ so, (s.polled auto st e).stored = some so → so ≤ x := by
  intro so hso
  cases auto with
  | false => exact hx so (s.polled_same (Or.inl rfl) ▸ hso)
  | true =>
    rcases Nat.lt_or_ge st e with hlt | hge
    · rw [s.polled_stored rfl hlt] at hso; cases hso; exact hex hlt
    · exact hx so (s.polled_same (Or.inr hge) ▸ hso)

theorem Srv.poll_eq (s : Srv) (pid : Nat) (strat : Strat) (count : Nat) (auto : Bool) (st e : Nat)
    (hst : st = s.start strat count) (he : e = min (st + count) s.len) :
    s.poll pid strat count auto = (⟨pid, s.len - 1, msgRun st e⟩, s.polled auto st e) := by
  simp only [Srv.poll, Srv.polled, msgRun, ← hst, ← he, gt_iff_lt, Nat.sub_pos_iff_lt]
  by_cases h : st < e
  · rw [Nat.add_sub_cancel' (Nat.le_of_lt h)]
  · simp only [h, decide_false, Bool.and_false, Bool.false_eq_true, ↓reduceIte]

theorem Srv.store_lt (s : Srv) (o : Nat) (h : o < s.len) : s.store o = ({ s with stored := some o }, true) := by
  simp [Srv.store, h]

/-! ## the poll event -/

theorem step_poll (cfg : CCfg) (pid : Nat) (strat0 : Strat) {c c1 c2 : Cons} {s s1 : Srv} {r r1 : Reply}
    {sync : SyncCommit} {y : Option Yield} (hb : c.buffered = [])
    (h0 : s.poll pid c.strat cfg.batch cfg.polling = (r, s1)) (h1 : c.onReply cfg r = (c1, r1, sync))
    (h2 : c1.onPolled cfg r1 = (c2, y)) :
    step cfg pid strat0 (c, s) .poll =
      ((c2, match sync with | some (_, o) => (s1.store o).1 | none => s1),
       [.polled s.stored r.msgs] ++ (match sync with | some (_, o) => [.store o (s1.store o).2] | none => []) ++
         (match y with | some y => [.yield y] | none => [])) := by
  simp only [step, hb, List.isEmpty_nil, ↓reduceIte, h0, h1, h2]
  rcases sync with _ | ⟨_, o⟩ <;> rfl

theorem step_poll_fresh (cfg : CCfg) (pid : Nat) (strat0 : Strat) (c : Cons) (s : Srv)
    (hc : c.consumed = []) (hs : c.stored = []) (hb : c.buffered = [])
    (st e : Nat) (hst : st = s.start c.strat cfg.batch) (he : e = min (st + cfg.batch) s.len) :
    step cfg pid strat0 (c, s) .poll =
      if e ≤ st then (({ c with curPart := pid }, s.polled cfg.polling st e), [.polled s.stored (msgRun st e)]) else
        (({ c with
              curPart := pid, consumed := [(pid, st)], stored := [(pid, 0)]
              buffered := msgRun (st + 1) e
              strat := nextStrat c.strat st
              pending := c.pending ++
                if commitNow cfg st || (cfg.afterAll && decide (e ≤ st + 1)) then [(pid, st)] else [] },
            s.polled cfg.polling st e),
         [.polled s.stored (msgRun st e), .yield ⟨pid, msgAt st⟩]) := by
  have h0 := s.poll_eq pid c.strat cfg.batch cfg.polling st e hst he
  by_cases h : e ≤ st
  · rw [step_poll cfg pid strat0 hb h0 (onReply_empty cfg c _ (msgRun_nil h)) (onPolled_nil cfg c _ (msgRun_nil h)),
      if_pos h]
    rfl
  · have hlt := Nat.lt_of_not_le h
    rw [step_poll cfg pid strat0 hb h0 (onReply_fresh cfg c _ hc hs (by rw [msgRun_cons hlt]; simp))
      (onPolled_cons cfg _ _ _ _ (msgRun_cons hlt)), if_neg h]
    simp [hb, msgRun, Nat.sub_eq_zero_iff_le]

theorem onReply_run (cfg : CCfg) (hrep : cfg.replay = false) (c : Cons) (pid cur st e l : Nat)
    (hc : c.consumed = [(pid, l)]) (hst : st ≤ l + 1) (hse : st < e) (hcur : e ≤ cur + 1) :
    c.onReply cfg ⟨pid, cur, msgRun st e⟩ =
      if e ≤ l + 1 then
        if cfg.autoCommitEnabled && !cfg.polling && (decide (localStored c pid < l) || c.strat == .next) then
          ({ c with stored := c.stored.set pid l }, ⟨pid, cur, []⟩, some (pid, l))
        else (c, ⟨pid, cur, []⟩, none)
      else
        ({ c with stored := if cfg.polling then c.stored.set pid l else touched c pid },
         ⟨pid, cur, msgRun (l + 1) e⟩, none) := by
  rw [onReply_has cfg hrep c _ l hc (by rw [msgRun_cons hse]; simp) (by
    intro m hm
    obtain ⟨o, ⟨_, h2⟩, rfl⟩ := mem_msgRun.mp hm
    simp only [msgAt_off]; omega)]
  simp only [msgRun, filter_run, Nat.max_eq_right hst, Nat.add_sub_cancel' (Nat.le_of_lt hse)]
  by_cases h : e ≤ l + 1
  · simp only [Nat.sub_eq_zero_of_le h, h, ↓reduceIte, localStored]; rfl
  · simp only [h, ↓reduceIte, touched]
    rw [if_neg (by simp; omega)]

theorem step_poll_going (cfg : CCfg) (hrep : cfg.replay = false) (pid : Nat) (strat0 : Strat) (c : Cons) (s : Srv)
    (l : Nat) (hc : c.consumed = [(pid, l)]) (hb : c.buffered = []) (hl : l < s.len)
    (st e : Nat) (hst : st = s.start c.strat cfg.batch) (he : e = min (st + cfg.batch) s.len) (hle : st ≤ l + 1) :
    step cfg pid strat0 (c, s) .poll =
      if e ≤ l + 1 then
        if st < e ∧ (cfg.autoCommitEnabled && !cfg.polling && (decide (localStored c pid < l) || c.strat == .next)) then
          (({ c with curPart := pid, stored := c.stored.set pid l }, { s with stored := some l }),
           [.polled s.stored (msgRun st e), .store l true])
        else (({ c with curPart := pid }, s.polled cfg.polling st e), [.polled s.stored (msgRun st e)])
      else
        (({ c with
              curPart := pid, consumed := [(pid, l + 1)]
              stored := if cfg.polling then c.stored.set pid l else touched c pid
              buffered := msgRun (l + 2) e
              strat := nextStrat c.strat (l + 1)
              pending := c.pending ++
                if commitNow cfg (l + 1) || (cfg.afterAll && decide (e ≤ l + 2)) then [(pid, l + 1)] else [] },
            s.polled cfg.polling st e),
          [.polled s.stored (msgRun st e), .yield ⟨pid, msgAt (l + 1)⟩]) := by
  have h0 := s.poll_eq pid c.strat cfg.batch cfg.polling st e hst he
  by_cases hse : st < e
  · have h1 := onReply_run cfg hrep c pid (s.len - 1) st e l hc hle hse (by omega)
    by_cases h : e ≤ l + 1
    · simp only [h, ↓reduceIte] at h1
      by_cases hsync : (cfg.autoCommitEnabled && !cfg.polling && (decide (localStored c pid < l) || c.strat == .next)) = true
      · simp only [hsync, ↓reduceIte] at h1
        have hpol : cfg.polling = false := by simp at hsync; exact hsync.1.2
        rw [step_poll cfg pid strat0 hb h0 h1 (onPolled_nil cfg _ _ rfl), if_pos h, if_pos (And.intro hse hsync),
          s.polled_same (Or.inl hpol)]
        simp [Srv.store_lt s l hl]
      · simp only [hsync, Bool.false_eq_true, ↓reduceIte] at h1
        rw [step_poll cfg pid strat0 hb h0 h1 (onPolled_nil cfg _ _ rfl), if_pos h, if_neg (not_and_of_not_right _ hsync)]
        rfl
    · simp only [h, ↓reduceIte] at h1
      rw [step_poll cfg pid strat0 hb h0 h1 (onPolled_cons cfg _ _ _ _ (msgRun_cons (Nat.lt_of_not_le h))), if_neg h]
      simp [hb, hc, msgRun, Nat.sub_eq_zero_iff_le]
  · have hes : e ≤ st := Nat.le_of_not_lt hse
    rw [step_poll cfg pid strat0 hb h0 (onReply_empty cfg c _ (msgRun_nil hes)) (onPolled_nil cfg c _ (msgRun_nil hes)),
      if_pos (show e ≤ l + 1 by omega), if_neg (not_and_of_not_left _ hse)]
    rfl

end Iggy.Sdk

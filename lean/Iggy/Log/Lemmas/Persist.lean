/-
Ways to establish `Part.Inv` that several operations share, and partition-level persistence: `Part.flush`
and `Part.save` preserve the invariant and the abstraction.
-/
import Iggy.Log.Lemmas.SegOps
namespace Iggy.Log

/-- `s'` is `s` after zero or more `persist` rounds that added `add` bytes of batch headers -/
structure PersistRel (cfg : Cfg) (s s' : Seg) (add : Nat) : Prop where
  inv : s'.Inv cfg
  msgs : s'.msgs = s.msgs
  start : s'.start = s.start
  size : s'.sizeBytes = s.sizeBytes + add
  closed : s.closed = true → s'.closed = true

theorem PersistRel.refl {cfg : Cfg} {s : Seg} (h : s.Inv cfg) : PersistRel cfg s s 0 :=
  ⟨h, rfl, rfl, rfl, id⟩

theorem PersistRel.persist {cfg : Cfg} {s : Seg} (h : s.Inv cfg) :
    PersistRel cfg s (s.persist cfg).1 (s.persist cfg).2 :=
  ⟨Seg.persist_inv h, Seg.persist_msgs, Seg.persist_start, Seg.persist_sizeBytes,
    Seg.persist_closed_of_closed⟩

theorem PersistRel.trans {cfg : Cfg} {s s' s'' : Seg} {a b : Nat} (h1 : PersistRel cfg s s' a)
    (h2 : PersistRel cfg s' s'' b) : PersistRel cfg s s'' (a + b) :=
  ⟨h2.inv, h2.msgs.trans h1.msgs, h2.start.trans h1.start, by rw [h2.size, h1.size]; omega,
    fun hc => h2.closed (h1.closed hc)⟩

/-- one more round of the loop `while unsaved_messages.is_some() { persist }` -/
theorem PersistRel.step {cfg : Cfg} {s s' : Seg} {a : Nat} (r : PersistRel cfg s s' a) :
    PersistRel cfg s (if s'.acc.isSome then s'.persist cfg else (s', 0)).1
      (a + (if s'.acc.isSome then s'.persist cfg else (s', 0)).2) := by
  split
  · exact r.trans (PersistRel.persist r.inv)
  · exact r.trans (PersistRel.refl r.inv)

/-- the state after `Partition::create` and after `purge` -/
theorem Part.inv_of_empty {cfg : Cfg} {p : Part} {now : Nat} (hseg : 0 < cfg.segSize)
    (hp : p = { p with segs := [Seg.create cfg 0 now], cur := 0, shouldInc := false, consOffs := [],
                       grpOffs := [] })
    (hcache : ∀ c, p.cache = some c → c = []) (hcacheCfg : p.cache.isSome = cfg.cacheOn)
    (hdedupCfg : p.dedup.isSome = cfg.dedupOn) (hcm : p.cnt.msgs = 0) (hcs : p.cnt.size = 0)
    (hcg : p.cnt.segs = 1) : p.Inv cfg := by
  rw [hp]
  exact
    { segs := List.forall_mem_singleton.2 (Seg.create_inv cfg 0 now hseg)
      chain := chain_singleton.2 rfl
      sizes := by simp [Part.msgs]
      ts := trivial
      cache := fun c hc => hcache c hc ▸ ⟨Or.inl List.nil_suffix, trivial, Nat.le_refl _⟩
      cacheCfg := hcacheCfg
      dedupCfg := hdedupCfg
      dedupIds := by simp [Part.msgs]
      cntMsgs := hcm
      cntSize := hcs
      cntSegs := hcg
      offsBound := by simp
      curZero := fun _ => rfl
      segSize := hseg }

/-- `hp`: `p'` is `p` with another segment list, other counters and another `unsaved` (which plays no
role in the invariant); it retains a suffix of the messages -/
theorem Part.Inv.of_drop_msgs {cfg : Cfg} {p p' : Part} (h : p.Inv cfg)
    (hp : p' = { p with segs := p'.segs, cnt := p'.cnt, unsaved := p'.unsaved }) {n : Nat}
    (hm : p'.msgs = p.msgs.drop n) (hsegs : ∀ s ∈ p'.segs, s.Inv cfg)
    (hchain : Iggy.Log.chain p'.segs p.next) (hcm : p'.cnt.msgs = p'.msgs.length)
    (hcs : p'.cnt.size = (p'.segs.map (·.sizeBytes)).sum) (hcg : p'.cnt.segs = p'.segs.length) :
    p'.Inv cfg := by
  have hsuf : p'.msgs <:+ p.msgs := hm ▸ List.drop_suffix n p.msgs
  rw [hp]
  exact
    { segs := hsegs
      chain := hchain
      sizes := fun m hmm => h.sizes m (hsuf.subset hmm)
      ts := h.ts.sublist hsuf.sublist
      cache := fun c hc =>
        ⟨(h.cache c hc).1.elim (List.suffix_or_suffix_of_suffix · hsuf) (fun h1 => Or.inr (hsuf.trans h1)),
          (h.cache c hc).2⟩
      cacheCfg := h.cacheCfg
      dedupCfg := h.dedupCfg
      dedupIds := fun ids hids =>
        ⟨fun m hmm => (h.dedupIds ids hids).1 m (hsuf.subset hmm),
          (h.dedupIds ids hids).2.sublist (hsuf.sublist.map _)⟩
      cntMsgs := hcm
      cntSize := hcs
      cntSegs := hcg
      offsBound := h.offsBound
      curZero := h.curZero
      segSize := h.segSize }

theorem Part.Inv.of_same_msgs {cfg : Cfg} {p p' : Part} (h : p.Inv cfg)
    (hp : p' = { p with segs := p'.segs, cnt := p'.cnt, unsaved := p'.unsaved }) (hm : p'.msgs = p.msgs)
    (hsegs : ∀ s ∈ p'.segs, s.Inv cfg) (hchain : Iggy.Log.chain p'.segs p.next)
    (hcm : p'.cnt.msgs = p.cnt.msgs) (hcs : p'.cnt.size = (p'.segs.map (·.sizeBytes)).sum)
    (hcg : p'.cnt.segs = p'.segs.length) : p'.Inv cfg ∧ abs p' = abs p :=
  ⟨h.of_drop_msgs (n := 0) hp hm hsegs hchain (by rw [hcm, hm]; exact h.cntMsgs) hcs hcg, by
    rw [hp]; exact congrArg (fun m => ({ abs p with msgs := m } : SPart)) hm⟩

theorem Part.Inv.persist_last {cfg : Cfg} {p : Part} (h : p.Inv cfg) {init : List Seg} {last s' : Seg}
    {add : Nat} (hs : p.segs = init ++ [last]) (hr : PersistRel cfg last s' add) (u sz : Nat)
    (hsz : sz = p.cnt.size + add) :
    ({ p with segs := init ++ [s'], unsaved := u
              cnt := { p.cnt with size := sz } } : Part).Inv cfg ∧
    abs { p with segs := init ++ [s'], unsaved := u
                 cnt := { p.cnt with size := sz } } = abs p := by
  subst hsz
  have hm : segsMsgs (init ++ [s']) = p.msgs := by
    rw [Part.msgs_of_snoc hs, ← hr.msgs]; simp
  obtain ⟨h1, h2, h3, h4⟩ := h.replace_last hs hr.inv hr.start (k := 0) (by rw [hr.msgs]; rfl) hr.size
  exact h.of_same_msgs rfl hm h1 h2 rfl h3 h4

theorem flush_refines {cfg : Cfg} {p : Part} (h : p.Inv cfg) :
    (p.flush cfg).Inv cfg ∧ abs (p.flush cfg) = abs p := by
  unfold Part.flush
  split
  · exact ⟨h, rfl⟩
  · obtain ⟨init, last, hs⟩ := h.exists_snoc
    simp only [hs, List.getLast?_concat, updLast_snoc]
    exact h.persist_last hs (PersistRel.persist (h.segs_snoc hs).2).step.step 0 _ (by omega)

theorem Part.save_segs (cfg : Cfg) (p : Part) :
    (p.save cfg).segs = p.segs.map (fun s => (s.persist cfg).1) := by
  simp [Part.save, List.map_map, Function.comp_def]

theorem Part.save_msgs (cfg : Cfg) (p : Part) : (p.save cfg).msgs = p.msgs := by
  rw [Part.msgs_eq, Part.save_segs, Part.msgs_eq]
  exact segsMsgs_map_of_msgs (fun s _ => Seg.persist_msgs)

theorem save_refines {cfg : Cfg} {p : Part} (h : p.Inv cfg) :
    (p.save cfg).Inv cfg ∧ abs (p.save cfg) = abs p := by
  refine h.of_same_msgs rfl (Part.save_msgs cfg p) ?_ ?_ rfl ?_ ?_
  · intro s hs
    rw [Part.save_segs] at hs
    obtain ⟨t, ht, rfl⟩ := List.mem_map.1 hs
    exact Seg.persist_inv (h.segs t ht)
  · rw [Part.save_segs]
    exact chain_map (fun _ _ => ⟨Seg.persist_start, Seg.persist_msgs, Seg.persist_closed_of_closed⟩) h.chain
  · rw [Part.save_segs]
    show p.cnt.size + _ = _
    rw [h.cntSize]
    simp only [List.map_map]
    generalize p.segs = l
    induction l with
    | nil => rfl
    | cons a l ih =>
      simp only [List.map_cons, List.sum_cons, Function.comp_apply] at ih ⊢
      rw [Seg.persist_sizeBytes]; omega
  · rw [Part.save_segs, List.length_map]; exact h.cntSegs

theorem Part.save_accMsgs (cfg : Cfg) (p : Part) : ∀ s ∈ (p.save cfg).segs, s.accMsgs = [] := by
  intro s hs
  rw [Part.save_segs] at hs
  obtain ⟨t, _, rfl⟩ := List.mem_map.1 hs
  exact Seg.persist_accMsgs

end Iggy.Log

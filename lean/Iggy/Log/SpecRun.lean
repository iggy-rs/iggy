/-
Reachable states of the abstract partition: every history of abstract operations (the `Effect`s
of Iggy/Sys/Model.lean, per partition), unbounded.
-/
import Iggy.Log.SpecProps
namespace Iggy.Log

inductive SOp
  | append (now : Nat) (msgs : List InMsg)
  | purge
  | drop (n : Nat)                     -- retention removed the n oldest retained messages
  | restart
  | setExpiry (e : Option Nat)
  | store (grp : Bool) (cid off : Nat)
  | delete (grp : Bool) (cid : Nat)
deriving Repr

/-- what a restart does to the abstract partition: the remembered ids are rebuilt from the retained
messages (partitions/storage.rs: load, mirrored by `Part.load`); everything else is kept -/
def SPart.restart (p : SPart) : SPart :=
  { p with ids := p.ids.map (fun _ => (p.msgs.map (·.id)).eraseDups) }

def SPart.step (p : SPart) : SOp → SPart
  | .append now msgs => p.append now msgs
  | .purge => p.purge
  | .drop n => p.dropPrefix n
  | .restart => p.restart
  | .setExpiry e => { p with expiry := e }
  | .store grp cid off => match p.storeOffset grp cid off with | .ok p' => p' | .error _ => p
  | .delete grp cid => match p.deleteOffset grp cid with | .ok p' => p' | .error _ => p

def SPart.run (cfg : Cfg) (e : Option Nat) (ops : List SOp) : SPart := ops.foldl SPart.step (SPart.create cfg e)

theorem SPart.run_snoc (cfg : Cfg) (e : Option Nat) (ops : List SOp) (op : SOp) :
    SPart.run cfg e (ops ++ [op]) = (SPart.run cfg e ops).step op := by
  simp [SPart.run, List.foldl_append]

theorem SPart.step_store (p : SPart) (grp : Bool) (cid off : Nat) :
    (p.step (.store grp cid off)).msgs = p.msgs ∧ (p.step (.store grp cid off)).next = p.next ∧
      (p.step (.store grp cid off)).ids = p.ids := by
  by_cases h : p.cur < off <;> cases grp <;> simp [SPart.step, SPart.storeOffset, h]

theorem SPart.storeOffset_msgs (p p' : SPart) (grp : Bool) (cid off : Nat)
    (h : p.storeOffset grp cid off = .ok p') : p'.msgs = p.msgs ∧ p'.next = p.next ∧ p'.ids = p.ids := by
  simpa only [SPart.step, h] using p.step_store grp cid off

theorem SPart.step_delete (p : SPart) (grp : Bool) (cid : Nat) :
    (p.step (.delete grp cid)).msgs = p.msgs ∧ (p.step (.delete grp cid)).next = p.next ∧
      (p.step (.delete grp cid)).ids = p.ids := by
  cases h : p.getOffset grp cid <;> cases grp <;> simp [SPart.step, SPart.deleteOffset, h]

theorem SPart.step_inv (p : SPart) (op : SOp) (h : p.Inv) : (p.step op).Inv := by
  cases op with
  | append now msgs => exact SPart.append_inv p now msgs h
  | purge => exact SPart.purge_inv p
  | drop n => exact SPart.dropPrefix_inv p n h
  | restart => exact h
  | setExpiry e => exact h
  | store grp cid off =>
    obtain ⟨h1, h2, -⟩ := p.step_store grp cid off
    unfold SPart.Inv; rwa [h1, h2]
  | delete grp cid =>
    obtain ⟨h1, h2, -⟩ := p.step_delete grp cid
    unfold SPart.Inv; rwa [h1, h2]

theorem SPart.run_inv (cfg : Cfg) (e : Option Nat) (ops : List SOp) : (SPart.run cfg e ops).Inv :=
  List.foldlRecOn ops SPart.step (SPart.create_inv cfg e) fun p h op _ => SPart.step_inv p op h

/-! ## deduplication invariant (C18) -/

def SPart.DedupInv (p : SPart) : Prop :=
  ∀ ids, p.ids = some ids → (∀ m ∈ p.msgs, m.id ∈ ids) ∧ (p.msgs.map (·.id)).Nodup

theorem SPart.step_dedupInv (p : SPart) (op : SOp) (h : p.DedupInv) : (p.step op).DedupInv := by
  cases op with
  | append now msgs => exact (number_spec p.next now msgs p.ids 0).dedup h
  | purge => intro ids _; simp [SPart.step, SPart.purge]
  | drop n =>
    intro ids hids
    obtain ⟨h1, h2⟩ := h ids hids
    exact ⟨fun m hm => h1 m (List.mem_of_mem_drop hm), ((List.drop_sublist n p.msgs).map _).nodup h2⟩
  | restart =>
    intro ids hids
    obtain ⟨ids0, hp, rfl⟩ := Option.map_eq_some_iff.1 hids
    exact ⟨fun m hm => List.mem_eraseDups.2 (List.mem_map_of_mem hm), (h ids0 hp).2⟩
  | setExpiry e => exact h
  | store grp cid off =>
    obtain ⟨h1, -, h3⟩ := p.step_store grp cid off
    unfold SPart.DedupInv; rwa [h1, h3]
  | delete grp cid =>
    obtain ⟨h1, -, h3⟩ := p.step_delete grp cid
    unfold SPart.DedupInv; rwa [h1, h3]

theorem SPart.run_dedupInv (cfg : Cfg) (e : Option Nat) (ops : List SOp) : (SPart.run cfg e ops).DedupInv :=
  List.foldlRecOn ops SPart.step (fun _ _ => by simp [SPart.create]) fun p h op _ => SPart.step_dedupInv p op h

/-! a concrete configuration and history used by non-vacuity examples -/
def exCfg : Cfg := { reqToSave := 2, segSize := 600, cacheOn := false, idxCacheOn := true, dedupOn := true }
def exHist : List SOp :=
  [.append 10 [⟨1, 50, 7⟩, ⟨2, 50, 8⟩, ⟨1, 50, 9⟩], .drop 1, .restart, .append 20 [⟨3, 60, 10⟩]]

end Iggy.Log

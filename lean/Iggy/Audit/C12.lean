import Iggy.Props.C12
#print axioms Iggy.Props.C12.exec_fst
#print axioms Iggy.Props.C12.final_is_interleaving
#print axioms Iggy.Props.C12.batch_contiguous
#print axioms Iggy.Props.C12.exec_consecutive
#print axioms Iggy.Props.C12.exec_next_ge
#print axioms Iggy.Props.C12.batches_totally_ordered
#print axioms Iggy.Props.C12.schedule_keeps_invariant
#print axioms Iggy.Props.C12.poll_contiguous_genuine
#print axioms Iggy.Props.C12.ack_visible
#print axioms Iggy.Props.C12.l1_atom_refines

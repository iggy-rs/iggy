/-
Properties of the abstract partition `SPart` (L2): what C01, C02, C07, C14, C18 say, stated on the
specification.  The refinement theorems (Iggy/Log/Lemmas/*.lean, put together in Iggy/Log/Refine.lean)
carry them to the storage model L1.
-/
import Iggy.Log.Spec
import Iggy.Log.Abs
import Iggy.Log.Lemmas.Number
import Iggy.Log.Lemmas.Range
namespace Iggy.Log

/-! ## the numbering loop (shared by L1 `Part.append` and L2 `SPart.append`)

Its step equations and `number_spec` are in `Lemmas/Number.lean`. -/

theorem number_consecutive (d : Option (List Nat)) (base now : Nat) (msgs : List InMsg) (k : Nat) :
    consecutiveFrom (base + k) (number d base now msgs k []).2 := (number_spec base now msgs d k).cons

theorem number_ts (d : Option (List Nat)) (base now : Nat) (msgs : List InMsg) (k : Nat) :
    ∀ m ∈ (number d base now msgs k []).2, m.ts = now := (number_spec base now msgs d k).ts

theorem number_none_all (base now : Nat) (msgs : List InMsg) (k : Nat) :
    (number none base now msgs k []).2.map (fun m => (m.id, m.size, m.tag)) =
      msgs.map (fun m => (m.id, m.size, m.tag)) := by
  induction msgs generalizing k with
  | nil => rfl
  | cons m rest ih => rw [number_cons_none, List.map_cons, ih]; rfl

theorem number_complete (ids : List Nat) (base now : Nat) (msgs : List InMsg) (k : Nat) :
    ∀ m ∈ msgs, m.id ∉ ids → m.id ∈ (number (some ids) base now msgs k []).2.map (·.id) := by
  induction msgs generalizing ids k with
  | nil => simp
  | cons x rest ih =>
    intro m hm hn
    by_cases hc : ids.contains x.id = true
    · rw [number_cons_some_dup _ _ _ _ _ _ hc]
      rcases List.mem_cons.1 hm with rfl | hm
      · exact absurd (by simpa using hc) hn
      · exact ih ids k m hm hn
    · rw [number_cons_some_new _ _ _ _ _ _ (by simpa using hc), List.map_cons, List.mem_cons]
      by_cases he : m.id = x.id
      · exact .inl he
      · refine .inr (ih _ _ m ?_ (by simp [he, hn]))
        rcases List.mem_cons.1 hm with rfl | hm
        · exact absurd rfl he
        · exact hm

/-! ## invariant of the specification: offsets are gap-free and end at `next` -/

def SPart.Inv (p : SPart) : Prop := ∃ lo, consecutiveFrom lo p.msgs ∧ lo + p.msgs.length = p.next

theorem SPart.create_inv (cfg : Cfg) (e : Option Nat) : (SPart.create cfg e).Inv :=
  ⟨0, trivial, rfl⟩

theorem SPart.append_inv (p : SPart) (now : Nat) (msgs : List InMsg) (h : p.Inv) : (p.append now msgs).Inv := by
  obtain ⟨lo, hc, hn⟩ := h
  refine ⟨lo, consecutiveFrom_append_iff.2 ⟨hc, ?_⟩, ?_⟩
  · rw [hn]; exact number_consecutive p.ids p.next now msgs 0
  · simp only [SPart.append, List.length_append]; omega

theorem SPart.purge_inv (p : SPart) : p.purge.Inv := ⟨0, trivial, rfl⟩

theorem SPart.dropPrefix_inv (p : SPart) (n : Nat) (h : p.Inv) : (p.dropPrefix n).Inv := by
  obtain ⟨lo, hc, hn⟩ := h
  refine ⟨lo + min n p.msgs.length, consecutiveFrom_drop lo p.msgs n hc, ?_⟩
  simp only [SPart.dropPrefix, List.length_drop]; omega

theorem SPart.dropPrefix_next (p : SPart) (n : Nat) :
    (p.dropPrefix n).next = p.next ∧ ∃ pre, p.msgs = pre ++ (p.dropPrefix n).msgs :=
  ⟨rfl, ⟨p.msgs.take n, (List.take_append_drop n p.msgs).symm⟩⟩

theorem SPart.offsets_range (p : SPart) (h : p.Inv) :
    ∃ lo, p.msgs.map (·.off) = List.range' lo p.msgs.length ∧ lo + p.msgs.length = p.next := by
  obtain ⟨lo, hc, hn⟩ := h
  exact ⟨lo, consecutiveFrom_map_off lo p.msgs hc, hn⟩

/-! ## polls on the specification (C02) -/

theorem SPart.pollOffset_eq_filter {p : SPart} {lo : Nat} (h : consecutiveFrom lo p.msgs) (off count : Nat) :
    p.pollOffset off count =
      p.msgs.filter (fun m => max off lo ≤ m.off ∧ m.off < max off lo + count) := by
  unfold SPart.pollOffset
  cases hm : p.msgs with
  | nil => rfl
  | cons f r => rw [hm] at h; simp only [List.head?_cons, h.1]

theorem SPart.pollOffset_eq_take {p : SPart} {lo : Nat} (h : consecutiveFrom lo p.msgs) (off count : Nat) :
    p.pollOffset off count = (p.msgs.drop (off - lo)).take count := by
  rw [SPart.pollOffset_eq_filter h, h.filter_window, h.filter_ge]

theorem SPart.pollOffset_sublist (p : SPart) (off count : Nat) :
    (p.pollOffset off count).Sublist p.msgs := List.filter_sublist

theorem SPart.pollOffset_consecutive (p : SPart) (off count : Nat) (h : p.Inv) :
    ∃ lo, consecutiveFrom lo (p.pollOffset off count) := by
  obtain ⟨lo, hc, _⟩ := h
  exact ⟨_, by rw [SPart.pollOffset_eq_take hc]; exact (hc.drop _).take _⟩

theorem SPart.pollOffset_complete (p : SPart) (off count : Nat) (m : Msg) (hm : m ∈ p.msgs)
    (h1 : off ≤ m.off) (h2 : m.off < off + count) (hlo : ∀ f, p.msgs.head? = some f → f.off ≤ off) :
    m ∈ p.pollOffset off count := by
  unfold SPart.pollOffset
  cases hh : p.msgs.head? with
  | none => simp [List.mem_filter, hm, h1, h2]
  | some f =>
    have := hlo f hh
    simp only [List.mem_filter, hm, decide_eq_true_eq, true_and]
    rw [Nat.max_eq_left this]; exact ⟨h1, h2⟩

theorem SPart.pollOffset_genuine (p : SPart) (off count : Nat) (m : Msg) (hm : m ∈ p.pollOffset off count) :
    m ∈ p.msgs := (List.mem_filter.mp hm).1

theorem SPart.pollOffset_length_le (p : SPart) (off count : Nat) (h : p.Inv) :
    (p.pollOffset off count).length ≤ count := by
  obtain ⟨lo, hc, _⟩ := h
  rw [SPart.pollOffset_eq_take hc]; exact List.length_take_le _ _

/-- C14 on the specification: a poll that starts at or above the new earliest offset is not affected
by retention -/
theorem SPart.dropPrefix_pollOffset {p : SPart} {lo : Nat} (h : consecutiveFrom lo p.msgs) (n : Nat)
    {off : Nat} (hoff : lo + min n p.msgs.length ≤ off) (count : Nat) :
    (p.dropPrefix n).pollOffset off count = p.pollOffset off count := by
  rw [SPart.pollOffset_eq_filter (consecutiveFrom_drop lo p.msgs n h), SPart.pollOffset_eq_filter h,
    Nat.max_eq_left hoff, Nat.max_eq_left (by omega)]
  have h' : consecutiveFrom lo (p.msgs.take n ++ p.msgs.drop n) := by rwa [List.take_append_drop]
  have := h'.filter_suffix (q := fun m => decide (off ≤ m.off ∧ m.off < off + count)) fun m hm => by
    rw [List.length_take] at hm; simp; omega
  rw [List.take_append_drop] at this
  exact this.symm

/-! ## consumer offsets on the specification (C07) -/

theorem SPart.getOffset_storeOffset {p p' : SPart} {grp : Bool} {cid off : Nat}
    (h : p.storeOffset grp cid off = .ok p') (grp' : Bool) (cid' : Nat) :
    p'.getOffset grp' cid' = if grp' = grp ∧ cid' = cid then some off else p.getOffset grp' cid' := by
  unfold SPart.storeOffset at h
  split at h
  · cases h
  · cases grp <;> cases grp' <;> cases h <;> simp [SPart.getOffset, lookup_insertKV]

theorem SPart.getOffset_deleteOffset {p p' : SPart} {grp : Bool} {cid : Nat}
    (h : p.deleteOffset grp cid = .ok p') (grp' : Bool) (cid' : Nat) :
    p'.getOffset grp' cid' = if grp' = grp ∧ cid' = cid then none else p.getOffset grp' cid' := by
  unfold SPart.deleteOffset at h
  split at h
  · cases h
  · cases grp <;> cases grp' <;> cases h <;> simp [SPart.getOffset, lookup_eraseK]

theorem SPart.get_after_store (p p' : SPart) (grp : Bool) (cid off : Nat)
    (h : p.storeOffset grp cid off = .ok p') : p'.getOffset grp cid = some off := by
  rw [SPart.getOffset_storeOffset h, if_pos ⟨rfl, rfl⟩]

theorem SPart.store_isolated (p p' : SPart) (grp grp' : Bool) (cid cid' off : Nat)
    (h : p.storeOffset grp cid off = .ok p') (hne : grp' ≠ grp ∨ cid' ≠ cid) :
    p'.getOffset grp' cid' = p.getOffset grp' cid' := by
  rw [SPart.getOffset_storeOffset h, if_neg fun ⟨hg, hc⟩ => hne.elim (· hg) (· hc)]

theorem SPart.store_beyond_refused (p : SPart) (grp : Bool) (cid off : Nat) (h : p.cur < off) :
    p.storeOffset grp cid off = .error .invalidOffset := by
  unfold SPart.storeOffset; simp [h]

theorem SPart.delete_removes (p p' : SPart) (grp : Bool) (cid : Nat)
    (h : p.deleteOffset grp cid = .ok p') : p'.getOffset grp cid = none := by
  rw [SPart.getOffset_deleteOffset h, if_pos ⟨rfl, rfl⟩]

theorem SPart.delete_isolated (p p' : SPart) (grp grp' : Bool) (cid cid' : Nat)
    (h : p.deleteOffset grp cid = .ok p') (hne : grp' ≠ grp ∨ cid' ≠ cid) :
    p'.getOffset grp' cid' = p.getOffset grp' cid' := by
  rw [SPart.getOffset_deleteOffset h, if_neg fun ⟨hg, hc⟩ => hne.elim (· hg) (· hc)]

theorem SPart.purge_clears_offsets (p : SPart) (grp : Bool) (cid : Nat) : p.purge.getOffset grp cid = none := by
  cases grp <;> simp [SPart.purge, SPart.getOffset, lookup]

theorem SPart.pollNext_spec (p : SPart) (grp : Bool) (cid count : Nat) :
    p.pollNext grp cid count =
      match p.getOffset grp cid with
      | none => p.pollOffset 0 count
      | some o => p.pollOffset (o + 1) count := by
  unfold SPart.pollNext SPart.getOffset SPart.pollFirst; rfl

theorem SPart.append_keeps_offsets (p : SPart) (now : Nat) (msgs : List InMsg) (grp : Bool) (cid : Nat) :
    (p.append now msgs).getOffset grp cid = p.getOffset grp cid := by
  unfold SPart.append SPart.getOffset; rfl

end Iggy.Log

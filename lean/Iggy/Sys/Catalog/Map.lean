/-
The catalogue as a sequential map: uniqueness, agreement of the two lookups, what a failed command
leaves, and what the cascading deletes rest on (`mem_allKeys`, `mem_dropMemberships`).
-/
import Iggy.Sys.Catalog.Spec
namespace Iggy.Sys
open Iggy.Log

theorem Sys.CatWF.unique {y : Sys} (h : y.CatWF) :
    y.streams.Pairwise (fun a b => a.1 < b.1) ∧ (y.streams.map (·.2.name)).Nodup ∧
    ∀ se ∈ y.streams, se.2.id = se.1 ∧
      se.2.topics.Pairwise (fun a b => a.1 < b.1) ∧ (se.2.topics.map (·.2.name)).Nodup ∧
      ∀ te ∈ se.2.topics, te.2.id = te.1 ∧ te.2.parts.map (·.1) = List.range' 1 te.2.parts.length ∧
        te.2.groups.Pairwise (fun a b => a.1 < b.1) ∧ (te.2.groups.map (·.2.name)).Nodup ∧
        ∀ ge ∈ te.2.groups, ge.2.id = ge.1 ∧ ge.2.nparts = te.2.parts.length := by
  refine ⟨h.scope.asc, h.scope.names_nodup, fun se hse => ?_⟩
  have hS := h.stream (k := se.1) (s := se.2) hse
  refine ⟨h.scope.key _ hse, hS.scope.asc, hS.scope.names_nodup, fun te hte => ?_⟩
  have hT := hS.topic (k := te.1) (t := te.2) hte
  refine ⟨hS.scope.key _ hte, hT.part_keys, hT.scope.asc, hT.scope.names_nodup, fun ge hge => ?_⟩
  exact ⟨hT.scope.key _ hge, hT.group_nparts (k := ge.1) (g := ge.2) hge⟩

theorem Sys.CatWF.findStream_name_iff_num {y : Sys} (h : y.CatWF) (s : Stream) :
    y.findStream (.name s.name) = .ok s ↔ y.findStream (.num s.id) = .ok s := by
  rw [h.findStream, h.findStream]
  simp [Ident.Matches]

theorem SV.WF.findTopic_name_iff_num {s : Stream} (h : s.view.WF) (t : Topic) :
    s.findTopic (.name t.name) = .ok t ↔ s.findTopic (.num t.id) = .ok t := by
  rw [h.findTopic, h.findTopic]
  simp [Ident.Matches]

theorem TV.WF.findGroup_name_iff_num {t : Topic} (h : t.view.WF) (g : Group) :
    t.findGroup (.name g.name) = .ok g ↔ t.findGroup (.num g.id) = .ok g := by
  rw [h.findGroup, h.findGroup]
  simp [Ident.Matches]

theorem Sys.CatWF.findStream_canon {y : Sys} (h : y.CatWF) {si : Ident} {s : Stream} (hs : y.findStream si = .ok s) :
    y.findStream (.num s.id) = .ok s ∧ y.findStream (.name s.name) = .ok s := by
  have := (h.findStream.1 hs).1
  exact ⟨h.findStream.2 ⟨this, rfl⟩, h.findStream.2 ⟨this, rfl⟩⟩

theorem failed_changes_nothing_aux {y : Sys} {r : Sys × Out × List Effect} (hs : Spec y r) {e : String}
    (he : r.2.1 = .err e) : viewY r.1 = viewY y ∧ r.1.journal = y.journal ∧ r.2.2 = [] := by
  cases hs with
  | same himp hv hj => exact ⟨hv, hj, himp (by simp only at he; rw [he]; rfl)⟩
  | logged e' ho _ => simp only at he; rw [he] at ho; cases ho

theorem find?_putStream_self (y : Sys) (s : Stream) : find? (y.putStream s).streams s.id = some s :=
  find?_insertAsc_self _ _ _

theorem find?_putStream_ne (y : Sys) (s : Stream) {k : Nat} (hk : k ≠ s.id) :
    find? (y.putStream s).streams k = find? y.streams k := find?_insertAsc_ne _ _ hk

theorem find?_putTopic_self (s : Stream) (t : Topic) : find? (s.putTopic t).topics t.id = some t :=
  find?_insertAsc_self _ _ _

theorem find?_putTopic_ne (s : Stream) (t : Topic) {k : Nat} (hk : k ≠ t.id) :
    find? (s.putTopic t).topics k = find? s.topics k := find?_insertAsc_ne _ _ hk

theorem mem_allKeys {y : Sys} {k : PKey} :
    k ∈ y.allKeys ↔ ∃ se ∈ y.streams, ∃ te ∈ se.2.topics, ∃ pe ∈ te.2.parts, k = (se.1, te.1, pe.1) := by
  simp only [Sys.allKeys, List.mem_flatten, List.mem_map]
  constructor
  · rintro ⟨l, ⟨se, hse, rfl⟩, hk⟩
    simp only [List.mem_flatten, List.mem_map] at hk
    obtain ⟨l', ⟨te, hte, rfl⟩, hk⟩ := hk
    simp only [List.mem_map] at hk
    obtain ⟨pe, hpe, rfl⟩ := hk
    exact ⟨se, hse, te, hte, pe, hpe, rfl⟩
  · rintro ⟨se, hse, te, hte, pe, hpe, rfl⟩
    refine ⟨_, ⟨se, hse, rfl⟩, ?_⟩
    simp only [List.mem_flatten, List.mem_map]
    exact ⟨_, ⟨te, hte, rfl⟩, List.mem_map.2 ⟨pe, hpe, rfl⟩⟩

theorem mem_dropMemberships {y : Sys} {f : Nat × Nat × Nat → Bool} {e : Nat × List (Nat × Nat × Nat)}
    (he : e ∈ (y.dropMemberships f).memberships) {m : Nat × Nat × Nat} (hm : m ∈ e.2) : f m = false := by
  obtain ⟨e0, _, rfl⟩ := List.mem_map.1 he
  simpa using (List.mem_filter.1 hm).2

end Iggy.Sys

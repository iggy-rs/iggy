/-
C17 — partition selection is deterministic and always lands on an existing partition.
Model: `Iggy.Sys.byKey`, `nextPid`, `Topic.nextPartition`, `Topic.send` (server/src/streaming/topics/messages.rs).
The hash of the key (utils/hash.rs `calculate_32`: xxhash32) is an input `h : Nat`: every statement is
for all hash values.
-/
import Iggy.Sys.SendLemmas
namespace Iggy.Props.C17
open Iggy.Sys Iggy.Log

/-- A messages key always selects an existing partition `1..n` — for every hash value, including
multiples of `n` and `n = 1`. -/
theorem key_in_range (h n : Nat) (hn : 1 ≤ n) : 1 ≤ byKey h n ∧ byKey h n ≤ n := by
  unfold byKey
  split
  · omega
  · have := Nat.mod_lt h (show 0 < n by omega)
    omega

/-- Same key (same hash), same partition count ⇒ same partition: `byKey` is a function of `(hash, n)`
and nothing else (no state is read). -/
theorem key_deterministic (h n : Nat) (t₁ t₂ : Topic) (h₁ : t₁.parts.length = n) (h₂ : t₂.parts.length = n) :
    byKey h t₁.parts.length = byKey h t₂.parts.length := by rw [h₁, h₂]

/-- Balanced selection lands on an existing partition for every cursor value ≥ 1 (the cursor starts at
1 and this lemma shows it stays ≥ 1), whatever the partition count has become meanwhile. -/
theorem balanced_in_range (c n : Nat) (hc : 1 ≤ c) (hn : 1 ≤ n) :
    1 ≤ (nextPid c n).1 ∧ (nextPid c n).1 ≤ n ∧ 1 ≤ (nextPid c n).2 := by
  unfold nextPid
  split <;> simp <;> omega

/-- the cursor automaton iterated `k` times with a fixed partition count: returns the k-th chosen
partition and the cursor afterwards -/
def iter (n : Nat) : Nat → Nat → Nat × Nat
  | c, 0 => nextPid c n
  | c, k + 1 => iter n (nextPid c n).2 k

/-- position of a cursor in the rotation: cursor `n+1` (or anything larger) wraps to 0 -/
def pos (c n : Nat) : Nat := if n < c then 0 else c - 1

theorem pos_lt (c n : Nat) (hc : 1 ≤ c) (hn : 1 ≤ n) : pos c n < n := by
  unfold pos; split <;> omega

/-- on positions the cursor automaton is "+ 1" -/
theorem nextPid_eq (c n : Nat) (hc : 1 ≤ c) : nextPid c n = (pos c n + 1, pos c n + 2) := by
  unfold nextPid pos
  split
  · rfl
  · rw [show c - 1 + 1 = c by omega, show c - 1 + 2 = c + 1 by omega]

theorem pos_add_two (a n : Nat) (ha : a < n) : pos (a + 2) n = (a + 1) % n := by
  unfold pos
  split
  · rw [show a + 1 = n by omega, Nat.mod_self]
  · rw [Nat.mod_eq_of_lt (by omega)]; rfl

/-- Rotation: with the partition count fixed, the k-th balanced send goes to partition
`((pos c₀ + k) mod n) + 1`. Hence any `n` consecutive balanced sends visit every partition exactly once
and any window of sends differs by at most one between partitions. -/
theorem balanced_rotation (n : Nat) (hn : 1 ≤ n) : ∀ (k c : Nat), 1 ≤ c →
    (iter n c k).1 = (pos c n + k) % n + 1 ∧ 1 ≤ (iter n c k).2 := by
  intro k
  induction k with
  | zero =>
    intro c hc
    show (nextPid c n).1 = pos c n % n + 1 ∧ 1 ≤ (nextPid c n).2
    rw [nextPid_eq c n hc, Nat.mod_eq_of_lt (pos_lt c n hc hn)]
    exact ⟨rfl, Nat.le_add_left ..⟩
  | succ k ih =>
    intro c hc
    obtain ⟨h1, h2⟩ := ih (pos c n + 2) (Nat.le_add_left ..)
    rw [iter, nextPid_eq c n hc]
    refine ⟨?_, h2⟩
    rw [h1, pos_add_two _ _ (pos_lt c n hc hn), Nat.mod_add_mod, Nat.add_assoc, Nat.add_comm 1 k]

theorem add_mod_ne (a d n : Nat) (hd : 0 < d) (hdn : d < n) : (a + d) % n ≠ a % n := by
  intro h
  have := Nat.sub_mod_eq_zero_of_mod_eq h
  rw [Nat.add_sub_cancel_left, Nat.mod_eq_of_lt hdn] at this
  omega

/-- `n` consecutive balanced sends hit `n` distinct partitions (so each exactly once): two sends
`i < j < n` apart never collide. -/
theorem balanced_window_distinct (n : Nat) (hn : 1 ≤ n) (c : Nat) (hc : 1 ≤ c) (i j : Nat)
    (hij : i < j) (hj : j < i + n) : (iter n c i).1 ≠ (iter n c j).1 := by
  rw [(balanced_rotation n hn i c hc).1, (balanced_rotation n hn j c hc).1]
  intro h
  have h' : (pos c n + i) % n = (pos c n + j) % n := by omega
  have := add_mod_ne (pos c n + i) (j - i) n (by omega) (by omega)
  rw [show pos c n + i + (j - i) = pos c n + j by omega] at this
  exact this h'.symm

/-- A send that names a partition that does not exist stores nothing: the topic is unchanged and no
effect is produced. -/
theorem by_id_missing_stores_nothing (t : Topic) (cfg : Cfg) (sc : SCfg) (sid now n : Nat)
    (msgs : List InMsg) (h : find? t.parts n = none) :
    (t.send cfg sc sid now (.pid n) msgs).1 = t ∧ (t.send cfg sc sid now (.pid n) msgs).2.2 = [] := by
  simp only [Topic.send_eq, Topic.route, h]
  split
  · exact ⟨rfl, rfl⟩
  split
  · exact ⟨rfl, rfl⟩
  split <;> exact ⟨rfl, rfl⟩

/-- All messages of one send land in one partition and no send is stored in more than one: a send has
at most one `appended` effect, it carries the whole batch, and every other partition is untouched. -/
theorem one_send_one_partition (t : Topic) (cfg : Cfg) (sc : SCfg) (sid now : Nat) (part : Partitioning)
    (msgs : List InMsg) :
    let r := t.send cfg sc sid now part msgs
    (r.2.2 = [] ∧ r.1.parts = t.parts) ∨
    (∃ pid p', r.2.2 = [Effect.appended (sid, t.id, pid) now msgs] ∧ r.1.parts = insertAsc t.parts pid p'
      ∧ (find? t.parts pid).isSome) := by
  have hr : (t.route part).2.parts = t.parts := by rw [t.route_snd]
  intro r
  -- `r` occurs four times in the goal: name it and analyse its value once
  have e : r = _ := Topic.send_eq t cfg sc sid now part msgs
  clear_value r
  split at e
  · subst e; exact .inl ⟨rfl, rfl⟩
  split at e
  · subst e; exact .inl ⟨rfl, rfl⟩
  split at e
  · subst e; exact .inl ⟨rfl, rfl⟩
  split at e
  · subst e; exact .inl ⟨rfl, hr⟩
  next p hp =>
  split at e
  · subst e; exact .inl ⟨rfl, hr⟩
  next p' _ => subst e; exact .inr ⟨_, p', rfl, by simp [Topic.putPart, hr], by simp [hp]⟩

/-! non-vacuity -/
example : byKey 12 4 = 4 ∧ byKey 13 4 = 1 ∧ byKey 7 1 = 1 := by decide
example : (iter 3 1 0).1 = 1 ∧ (iter 3 1 1).1 = 2 ∧ (iter 3 1 2).1 = 3 ∧ (iter 3 1 3).1 = 1 := by decide
example : (iter 3 4 0).1 = 1 ∧ (iter 2 7 1).1 = 2 := by decide

end Iggy.Props.C17

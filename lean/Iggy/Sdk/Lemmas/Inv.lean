/- C20 helpers: the invariant of the composed system -/
import Iggy.Sdk.Lemmas.Trace
import Iggy.Sdk.Lemmas.Prim
namespace Iggy.Sdk

/-- the strategy the consumer holds: `next` stays; `offset` follows the last consumed message -/
def StratOK (strat0 : Strat) (c : Cons) (a l b : Nat) : Prop :=
  match strat0 with
  | .next => c.strat = .next
  | .offset k => a = k ∧ ∃ j, c.strat = .offset j ∧ (b = 0 → j = l + 1)
  | _ => False

/-- (consume modes) the client's `last_stored_offsets` entry is what the server holds, unless this
incarnation has not stored anything yet; and offset 0, once consumed, is on its way to the server -/
def CInv (cfg : CCfg) (pid : Nat) (c : Cons) (s : Srv) (l b : Nat) : Prop :=
  ∃ v, c.stored = [(pid, v)] ∧
    ((v = 0 ∧ (l = 0 → (pid, 0) ∈ c.pending ∨ (cfg.mode = .all ∧ b ≠ 0))) ∨ s.stored = some v)

/-- (polling mode) the server's offset is within one batch of the end of the buffer -/
def PInv (cfg : CCfg) (c : Cons) (s : Srv) (l b : Nat) : Prop :=
  c.pending = [] ∧ b < cfg.batch ∧ ∃ so, s.stored = some so ∧ l + b + 1 ≤ so + cfg.batch

/-- the consumer within an incarnation that has yielded the offsets `inc`:
`fresh`: nothing yielded, nothing held; `going a n b`: it yielded `a .. a+n`, remembers `a+n` as consumed,
buffers the next `b` messages, all of which the server has; with `next` the server's stored offset is
not ahead of the buffer; what waits in the channel was yielded by this incarnation.
`rew`: the stored offset may be moved back behind the consumer's back (`Iggy/Sdk/Rewind.lean`); the facts
that tie the server's stored offset to what this client did (`hC`, `hP`) hold in the world without rewinds. -/
inductive Phase (rew : Bool) (cfg : CCfg) (pid : Nat) (strat0 : Strat) (c : Cons) (s : Srv) (inc : List Nat) : Prop
  | fresh (hi : inc = []) (hc : c.consumed = []) (hb : c.buffered = []) (hp : c.pending = [])
      (hs : c.stored = []) (hst : c.strat = strat0)
  | going (a n b : Nat) (hi : inc = List.range' a (n + 1)) (hc : c.consumed = [(pid, a + n)])
      (hcp : c.curPart = pid) (hb : c.buffered = (List.range' (a + n + 1) b).map msgAt)
      (hlen : a + n + b < s.len)
      (hso : strat0 = .next → ∀ so, s.stored = some so → so ≤ a + n + b)
      (hst : StratOK strat0 c a (a + n) b)
      (hp : ∀ e ∈ c.pending, e.1 = pid ∧ e.2 ∈ inc)
      (hC : rew = false → strat0 = .next → ConsumeMode cfg → CInv cfg pid c s (a + n) b)
      (hP : rew = false → strat0 = .next → cfg.polling = true → PInv cfg c s (a + n) b)

/-- (also with rewinds; outside polling mode) the offset a poll finds stored on the server is not beyond
the initial one, or not beyond one the consumer yielded -/
def PolledBelow (cfg : CCfg) (srv0 : Srv) (pre : List Obs) (x : Obs) : Prop :=
  ∀ b r, x = .polled b r → cfg.polling = false →
    resume b ≤ resume srv0.stored ∨ ∃ o ∈ offsOf pre, resume b ≤ o + 1

/-- the part of the invariant that reads the trace (`rew = false`: nobody else moves the stored offset, so
it is the initial one or one this consumer committed) -/
structure GInv (rew : Bool) (cfg : CCfg) (pid : Nat) (strat0 : Strat) (srv0 : Srv) (buf : List PMsg) (s : Srv)
    (tr : List Obs) : Prop where
  genuine : ∀ y ∈ yieldsOf tr, y.pid = pid ∧ y.msg = msgAt y.msg.off ∧ y.msg.off < s.len
  yFetched : ∀ o ∈ offsOf tr, o ∈ fetchedOf tr
  bFetched : ∀ m ∈ buf, m.off ∈ fetchedOf tr
  srvFetched : rew = false → s.stored = srv0.stored ∨ ∃ o, s.stored = some o ∧ o ∈ fetchedOf tr
  srvYielded : rew = false → cfg.polling = false → s.stored = srv0.stored ∨ ∃ o, s.stored = some o ∧ o ∈ offsOf tr
  srvBelow : cfg.polling = false → resume s.stored ≤ resume srv0.stored ∨ ∃ o ∈ offsOf tr, resume s.stored ≤ o + 1
  polledBelow : Always (PolledBelow cfg srv0) tr
  yieldOK : Always (YieldOK pid strat0) tr
  storeOK : Always StoreOK tr
  polledOK : rew = false → Always (PolledOK cfg srv0) tr
  past : ∀ inc ∈ pastIncs tr, ∃ a, offsOf inc = List.range' a (offsOf inc).length

structure Inv (rew : Bool) (cfg : CCfg) (pid : Nat) (strat0 : Strat) (srv0 : Srv) (sys : Sys) (tr : List Obs) : Prop where
  phase : Phase rew cfg pid strat0 sys.1 sys.2 (offsOf (curInc tr))
  g : GInv rew cfg pid strat0 srv0 sys.1.buffered sys.2 tr

variable {rew : Bool} {cfg : CCfg} {pid : Nat} {strat0 : Strat} {srv0 : Srv}

theorem range'_snoc (a n : Nat) : List.range' a (n + 1) = List.range' a n ++ [a + n] := by
  rw [List.range'_concat]; simp

theorem getLast?_range' (a n : Nat) : (List.range' a (n + 1)).getLast? = some (a + n) := by
  rw [range'_snoc]; simp

theorem GInv.init : GInv rew cfg pid strat0 srv0 [] srv0 [] where
  genuine := by simp
  yFetched := by simp
  bFetched := by simp
  srvFetched := fun _ => Or.inl rfl
  srvYielded := fun _ _ => Or.inl rfl
  srvBelow := fun _ => Or.inl (Nat.le_refl _)
  polledBelow := Always.nil _
  yieldOK := Always.nil _
  storeOK := Always.nil _
  polledOK := fun _ => Always.nil _
  past := by simp

theorem GInv.yield {buf buf' : List PMsg} {s : Srv} {tr : List Obs} (h : GInv rew cfg pid strat0 srv0 buf s tr)
    (y : Yield) (h1 : y.pid = pid) (h2 : y.msg = msgAt y.msg.off) (h3 : y.msg.off < s.len)
    (h4 : y.msg.off ∈ fetchedOf tr) (hb : ∀ m ∈ buf', m.off ∈ fetchedOf tr)
    (h5 : match lastYield tr with
      | some l => y.msg.off = l + 1
      | none => ∃ pre' b r, tr = pre' ++ [.polled b r] ∧ y.msg.off = firstOff strat0 b) :
    GInv rew cfg pid strat0 srv0 buf' s (tr ++ [.yield y]) := by
  have ey : yieldsOf (tr ++ [.yield y]) = yieldsOf tr ++ [y] := by simp
  have eo : offsOf (tr ++ [.yield y]) = offsOf tr ++ [y.msg.off] := by simp
  have ef : fetchedOf (tr ++ [.yield y]) = fetchedOf tr := by simp
  exact {
    genuine := by
      intro z hz
      rcases List.mem_append.mp (ey ▸ hz) with hz | hz
      · exact h.genuine z hz
      · cases List.mem_singleton.mp hz; exact ⟨h1, h2, h3⟩
    yFetched := by
      intro o ho
      rw [ef]
      rcases List.mem_append.mp (eo ▸ ho) with ho | ho
      · exact h.yFetched o ho
      · cases List.mem_singleton.mp ho; exact h4
    bFetched := by rw [ef]; exact hb
    srvFetched := by rw [ef]; exact h.srvFetched
    srvYielded := fun hrw hp =>
      (h.srvYielded hrw hp).imp_right fun ⟨o, e, ho⟩ => ⟨o, e, eo ▸ List.mem_append_left _ ho⟩
    srvBelow := fun hp => (h.srvBelow hp).imp_right fun ⟨o, ho, e⟩ => ⟨o, eo ▸ List.mem_append_left _ ho, e⟩
    polledBelow := h.polledBelow.snoc (fun _ _ hz => nomatch hz)
    yieldOK := h.yieldOK.snoc (fun z hz => by cases hz; exact ⟨h1, h2, h5⟩)
    storeOK := h.storeOK.snoc (fun _ _ hz => nomatch hz)
    polledOK := fun hrw => (h.polledOK hrw).snoc (fun _ _ hz => nomatch hz)
    past := by rw [pastIncs_snoc _ _ (by simp)]; exact h.past }

theorem GInv.store {buf : List PMsg} {s : Srv} {tr : List Obs} (h : GInv rew cfg pid strat0 srv0 buf s tr)
    (o : Nat) (ho : o ∈ offsOf tr) :
    GInv rew cfg pid strat0 srv0 buf { s with stored := some o } (tr ++ [.store o true]) := by
  have ey : yieldsOf (tr ++ [.store o true]) = yieldsOf tr := by simp
  have eo : offsOf (tr ++ [.store o true]) = offsOf tr := by simp
  have ef : fetchedOf (tr ++ [.store o true]) = fetchedOf tr := by simp
  exact {
    genuine := by rw [ey]; exact h.genuine
    yFetched := by rw [eo, ef]; exact h.yFetched
    bFetched := by rw [ef]; exact h.bFetched
    srvFetched := fun _ => Or.inr ⟨o, rfl, ef ▸ h.yFetched o ho⟩
    srvYielded := fun _ _ => Or.inr ⟨o, rfl, eo ▸ ho⟩
    srvBelow := fun _ => Or.inr ⟨o, eo ▸ ho, Nat.le_refl _⟩
    polledBelow := h.polledBelow.snoc (fun _ _ hz => nomatch hz)
    yieldOK := h.yieldOK.snoc (fun _ hz => nomatch hz)
    storeOK := h.storeOK.snoc (fun _ _ hz => by cases hz; exact ⟨rfl, ho⟩)
    polledOK := fun hrw => (h.polledOK hrw).snoc (fun _ _ hz => nomatch hz)
    past := by rw [pastIncs_snoc _ _ (by simp)]; exact h.past }

theorem GInv.polled {buf : List PMsg} {s s' : Srv} {tr : List Obs} (h : GInv rew cfg pid strat0 srv0 buf s tr)
    (r : List PMsg) (hlen : s'.len = s.len)
    (hst : s'.stored = s.stored ∨ (cfg.polling = true ∧ ∃ m ∈ r, s'.stored = some m.off)) :
    GInv rew cfg pid strat0 srv0 buf s' (tr ++ [.polled s.stored r]) := by
  have ey : yieldsOf (tr ++ [.polled s.stored r]) = yieldsOf tr := by simp
  have eo : offsOf (tr ++ [.polled s.stored r]) = offsOf tr := by simp
  have ef : fetchedOf (tr ++ [.polled s.stored r]) = fetchedOf tr ++ r.map (·.off) := by simp
  have hsame : cfg.polling = false → s'.stored = s.stored := fun hp =>
    hst.elim id fun ⟨hp', _⟩ => nomatch hp.symm.trans hp'
  exact {
    genuine := by rw [ey, hlen]; exact h.genuine
    yFetched := fun o ho => ef ▸ List.mem_append_left _ (h.yFetched o (eo ▸ ho))
    bFetched := fun m hm => ef ▸ List.mem_append_left _ (h.bFetched m hm)
    srvFetched := by
      intro hrw
      rw [ef]
      rcases hst with e | ⟨_, m, hm, e⟩
      · rw [e]
        exact (h.srvFetched hrw).imp_right fun ⟨o, e', ho⟩ => ⟨o, e', List.mem_append_left _ ho⟩
      · exact Or.inr ⟨m.off, e, List.mem_append_right _ (List.mem_map.mpr ⟨m, hm, rfl⟩)⟩
    srvYielded := fun hrw hp => by rw [eo, hsame hp]; exact h.srvYielded hrw hp
    srvBelow := fun hp => by rw [eo, hsame hp]; exact h.srvBelow hp
    polledBelow := h.polledBelow.snoc (fun _ _ hz hp => by cases hz; exact h.srvBelow hp)
    yieldOK := h.yieldOK.snoc (fun _ hz => nomatch hz)
    storeOK := h.storeOK.snoc (fun _ _ hz => nomatch hz)
    polledOK := fun hrw => (h.polledOK hrw).snoc (fun _ _ hz => by
      cases hz
      exact ⟨(h.srvFetched hrw).imp_right fun ⟨o, e, ho⟩ => ⟨o, ho, e⟩,
        fun hp => (h.srvYielded hrw hp).imp_right fun ⟨o, e, ho⟩ => ⟨o, ho, e⟩⟩)
    past := by rw [pastIncs_snoc _ _ (by simp)]; exact h.past }

theorem GInv.polled_run {buf : List PMsg} {s : Srv} {tr : List Obs} (h : GInv rew cfg pid strat0 srv0 buf s tr)
    (st e : Nat) :
    GInv rew cfg pid strat0 srv0 buf (s.polled cfg.polling st e) (tr ++ [.polled s.stored (msgRun st e)]) := by
  refine h.polled _ (s.polled_len ..) ?_
  rcases Nat.lt_or_ge st e with hlt | hge
  · cases hpol : cfg.polling with
    | false => exact Or.inl (by rw [s.polled_same (Or.inl rfl)])
    | true => exact Or.inr ⟨rfl, msgAt (e - 1), mem_msgRun.mpr ⟨_, by omega, rfl⟩, s.polled_stored rfl hlt⟩
  · exact Or.inl (by rw [s.polled_same (Or.inr hge)])

theorem lastYield_polled (tr : List Obs) (b r) : lastYield (tr ++ [.polled b r]) = lastYield tr := by
  rw [lastYield, offsOf_curInc_snoc_polled]; rfl

theorem GInv.polled_yield {buf : List PMsg} {s : Srv} {tr : List Obs} (h : GInv rew cfg pid strat0 srv0 buf s tr)
    (st e f : Nat) (hsf : st ≤ f) (hfe : f < e) (hel : e ≤ s.len)
    (h5 : match lastYield tr with
      | some l => f = l + 1
      | none => f = firstOff strat0 s.stored) :
    GInv rew cfg pid strat0 srv0 (msgRun (f + 1) e) (s.polled cfg.polling st e)
      (tr ++ [.polled s.stored (msgRun st e), .yield ⟨pid, msgAt f⟩]) := by
  have hfetch : ∀ o, st ≤ o → o < e → o ∈ fetchedOf (tr ++ [Obs.polled s.stored (msgRun st e)]) := by
    intro o h1 h2
    simp only [fetchedOf_append, fetchedOf_cons_polled, fetchedOf_nil, List.append_nil, List.mem_append, List.mem_map]
    exact Or.inr ⟨msgAt o, mem_msgRun.mpr ⟨o, ⟨h1, h2⟩, rfl⟩, rfl⟩
  rw [List.append_cons]
  refine (h.polled_run st e).yield ⟨pid, msgAt f⟩ rfl rfl ?_ (hfetch f hsf hfe) ?_ ?_
  · rw [s.polled_len]; exact Nat.lt_of_lt_of_le hfe hel
  · intro m hm
    obtain ⟨o, ⟨h1, h2⟩, rfl⟩ := mem_msgRun.mp hm
    exact hfetch o (by omega) h2
  · rw [lastYield_polled]
    cases hl : lastYield tr with
    | some l => rw [hl] at h5; exact h5
    | none => rw [hl] at h5; exact ⟨tr, s.stored, _, rfl, h5⟩

theorem GInv.buf {buf buf' : List PMsg} {s : Srv} {tr : List Obs} (h : GInv rew cfg pid strat0 srv0 buf s tr)
    (hb : ∀ m ∈ buf', m.off ∈ fetchedOf tr) : GInv rew cfg pid strat0 srv0 buf' s tr :=
  { h with bFetched := hb }

theorem Phase.range {c : Cons} {s : Srv} {inc : List Nat} (h : Phase rew cfg pid strat0 c s inc) :
    ∃ a, inc = List.range' a inc.length := by
  cases h with
  | fresh hi => exact ⟨0, by rw [hi]; rfl⟩
  | going a n b hi => exact ⟨a, by rw [hi, List.length_range']⟩

theorem Inv.init : Inv rew cfg pid strat0 srv0 (Cons.new strat0, srv0) [] where
  phase := .fresh rfl rfl rfl rfl rfl rfl
  g := GInv.init

theorem Inv.append (h : Inv rew cfg pid strat0 srv0 sys tr) (k : Nat) :
    Inv rew cfg pid strat0 srv0 (step cfg pid strat0 sys (.append k)).1 (tr ++ (step cfg pid strat0 sys (.append k)).2) := by
  obtain ⟨c, s⟩ := sys
  simp only [step, List.append_nil]
  refine ⟨?_, { h.g with genuine := fun y hy => (h.g.genuine y hy).imp_right (.imp_right (Nat.lt_add_right k)) }⟩
  cases h.phase with
  | fresh hi hc hb hp hs hst => exact .fresh hi hc hb hp hs hst
  | going a n b hi hc hcp hb hlen hso hst hp hC hP =>
    exact .going a n b hi hc hcp hb (by simp at hlen ⊢; omega) hso hst hp hC hP

theorem Inv.drop (h : Inv rew cfg pid strat0 srv0 sys tr) :
    Inv rew cfg pid strat0 srv0 (step cfg pid strat0 sys .drop).1 (tr ++ (step cfg pid strat0 sys .drop).2) := by
  obtain ⟨c, s⟩ := sys
  simp only [step]
  by_cases hp : c.pending.isEmpty
  · simp only [hp, ↓reduceIte]
    refine ⟨?_, ?_⟩
    · simp only [curInc_snoc_dropped]
      exact .fresh rfl rfl rfl rfl rfl rfl
    · have hg := h.g
      have ey : yieldsOf (tr ++ [.dropped]) = yieldsOf tr := by simp
      have eo : offsOf (tr ++ [.dropped]) = offsOf tr := by simp
      have ef : fetchedOf (tr ++ [.dropped]) = fetchedOf tr := by simp
      exact {
        genuine := by rw [ey]; exact hg.genuine
        yFetched := by rw [eo, ef]; exact hg.yFetched
        bFetched := fun _ hm => nomatch hm
        srvFetched := by rw [ef]; exact hg.srvFetched
        srvYielded := by rw [eo]; exact hg.srvYielded
        srvBelow := by rw [eo]; exact hg.srvBelow
        polledBelow := hg.polledBelow.snoc (fun _ _ hz => nomatch hz)
        yieldOK := hg.yieldOK.snoc (fun _ hz => nomatch hz)
        storeOK := hg.storeOK.snoc (fun _ _ hz => nomatch hz)
        polledOK := fun hrw => (hg.polledOK hrw).snoc (fun _ _ hz => nomatch hz)
        past := by
          intro inc hinc
          simp only [pastIncs_snoc_dropped, List.mem_append, List.mem_singleton] at hinc
          rcases hinc with hinc | rfl
          · exact hg.past inc hinc
          · exact h.phase.range }
  · simp only [hp, Bool.false_eq_true, ↓reduceIte, List.append_nil]
    exact h

end Iggy.Sdk

/-
The twenty Boolean permissions a rule evaluated at `(s, tp)` can see — ten global ones, six of the
record of stream `s`, four of its entry for topic `tp` — as one type `Flag`.  Every generated rule
turns out to be a disjunction of flags (`rules_flags`, Iggy/Perm/RuleFacts.lean): it answers `ok`
exactly when the record has a flag that suffices on its own (`allowed`).  What property C09 says about
all rules is then a fact about `Flag.on`, proved here once.
-/
import Iggy.Perm.Lemmas
namespace Iggy.Perm

def gBit (g : GlobalPermissions) : Nat → Bool
  | 0 => g.manage_servers | 1 => g.read_servers | 2 => g.manage_users | 3 => g.read_users
  | 4 => g.manage_streams | 5 => g.read_streams | 6 => g.manage_topics | 7 => g.read_topics
  | 8 => g.poll_messages | 9 => g.send_messages | _ => false

def sBit (sp : StreamPermissions) : Nat → Bool
  | 0 => sp.manage_stream | 1 => sp.read_stream | 2 => sp.manage_topics | 3 => sp.read_topics
  | 4 => sp.poll_messages | 5 => sp.send_messages | _ => false

def tBit (t : TopicPermissions) : Nat → Bool
  | 0 => t.manage_topic | 1 => t.read_topic | 2 => t.poll_messages | 3 => t.send_messages | _ => false

/-- the records with bit `i` only (with no bit for `i` out of range) -/
def gOnly (i : Nat) : GlobalPermissions :=
  ⟨i == 0, i == 1, i == 2, i == 3, i == 4, i == 5, i == 6, i == 7, i == 8, i == 9⟩
def sOnly (i : Nat) (topics : Option (List (Nat × TopicPermissions))) : StreamPermissions :=
  ⟨i == 0, i == 1, i == 2, i == 3, i == 4, i == 5, topics⟩
def tOnly (i : Nat) : TopicPermissions := ⟨i == 0, i == 1, i == 2, i == 3⟩

inductive Flag
  | g (i : Nat) | s (i : Nat) | t (i : Nat)
deriving DecidableEq

def Flag.all : List Flag := (List.range 10).map .g ++ (List.range 6).map .s ++ (List.range 4).map .t

def Flag.on (p : Permissions) (s tp : Nat) : Flag → Bool
  | .g i => gBit p.global i
  | .s i => sflag p s (sBit · i)
  | .t i => tflag p s tp (tBit · i)

def Flag.only : Flag → Permissions
  | .g i => ⟨gOnly i, none⟩
  | .s i => ⟨gOnly 10, some [(0, sOnly i none)]⟩
  | .t i => ⟨gOnly 10, some [(0, sOnly 6 (some [(0, tOnly i)]))]⟩

def Flag.suffices (f : Tables → Nat → Nat → Nat → Res) (a : Flag) : Bool :=
  decide (f (tablesOf 0 (some a.only)) 0 0 0 = .ok)

def allowed (f : Tables → Nat → Nat → Nat → Res) (p : Option Permissions) (s tp : Nat) : Bool :=
  match p with
  | none => false
  | some p => (Flag.all.filter (·.suffices f)).any (·.on p s tp)

theorem gBit_mono {a b : GlobalPermissions} (h : gLe a b = true) (i : Nat) (ha : gBit a i = true) :
    gBit b i = true := by
  simp only [gLe, Bool.and_eq_true, Bool.or_eq_true, Bool.not_eq_true'] at h
  unfold gBit at *
  split at ha <;> simp_all

theorem sBit_mono {a b : StreamPermissions} (h : spLe a b = true) (i : Nat) (ha : sBit a i = true) :
    sBit b i = true := by
  simp only [spLe, Bool.and_eq_true, Bool.or_eq_true, Bool.not_eq_true'] at h
  unfold sBit at *
  split at ha <;> simp_all

theorem tBit_mono {a b : TopicPermissions} (h : tpLe a b = true) (i : Nat) (ha : tBit a i = true) :
    tBit b i = true := by
  simp only [tpLe, Bool.and_eq_true, Bool.or_eq_true, Bool.not_eq_true'] at h
  unfold tBit at *
  split at ha <;> simp_all

theorem sflag_eq_true {p : Permissions} {s : Nat} {f : StreamPermissions → Bool} :
    sflag p s f = true ↔ ∃ sp, streamRec p s = some sp ∧ f sp = true := by
  unfold sflag; cases streamRec p s <;> simp

theorem tflag_eq_true {p : Permissions} {s tp : Nat} {f : TopicPermissions → Bool} :
    tflag p s tp f = true ↔ ∃ sp t, streamRec p s = some sp ∧ topicRec sp tp = some t ∧ f t = true := by
  unfold tflag; cases streamRec p s with
  | none => simp
  | some sp => cases h : topicRec sp tp <;> simp [h]

theorem Flag.on_mono {p p' : Permissions} (h : p.le p') {s tp : Nat} {a : Flag} (ha : a.on p s tp = true) :
    a.on p' s tp = true := by
  cases a with
  | g i => exact gBit_mono h.1 i ha
  | s i =>
    obtain ⟨sp, hs, hb⟩ := sflag_eq_true.1 ha
    obtain ⟨sp', hs', hle, -⟩ := h.2 s sp hs
    exact sflag_eq_true.2 ⟨sp', hs', sBit_mono hle i hb⟩
  | t i =>
    obtain ⟨sp, t, hs, ht, hb⟩ := tflag_eq_true.1 ha
    obtain ⟨sp', hs', -, h3⟩ := h.2 s sp hs
    obtain ⟨t', ht', hle⟩ := h3 tp t ht
    exact tflag_eq_true.2 ⟨sp', t', hs', ht', tBit_mono hle i hb⟩

theorem allowed_mono {f : Tables → Nat → Nat → Nat → Res} {p p' : Permissions} (h : p.le p') {s tp : Nat}
    (ha : allowed f (some p) s tp = true) : allowed f (some p') s tp = true := by
  simp only [allowed, List.any_eq_true] at *
  obtain ⟨a, hm, hon⟩ := ha
  exact ⟨a, hm, Flag.on_mono h hon⟩

theorem Flag.on_eq_sight (p : Permissions) (s tp : Nat) (a : Flag) :
    a.on p s tp = match a with
      | .g i => gBit p.global i
      | .s i => ((streamRec p s).map (topicSight tp)).any (sBit ·.1 i)
      | .t i => ((streamRec p s).map (topicSight tp)).any (·.2.any (tBit · i)) := by
  cases a with
  | g i => rfl
  | s i =>
    simp only [Flag.on, sflag]
    cases streamRec p s with
    | none => rfl
    | some sp => simp only [Option.map_some, Option.any_some, topicSight]; unfold sBit; split <;> rfl
  | t i =>
    simp only [Flag.on, tflag]
    cases streamRec p s with
    | none => rfl
    | some sp => simp only [Option.map_some, Option.any_some, topicSight]; cases topicRec sp tp <;> rfl

theorem allowed_congr {f : Tables → Nat → Nat → Nat → Res} {p p' : Option Permissions} {s tp : Nat}
    (hg : p.map (·.global) = p'.map (·.global))
    (hs : (p.bind fun p => streamRec p s).map (topicSight tp) =
      (p'.bind fun p => streamRec p s).map (topicSight tp)) :
    allowed f p s tp = allowed f p' s tp := by
  cases p <;> cases p' <;> simp only [Option.map_some, Option.map_none, Option.some.injEq, reduceCtorEq] at hg
  · rfl
  · simp only [Option.bind_some] at hs
    simp only [allowed, Flag.on_eq_sight, hg, hs]

theorem allowed_root {f : Tables → Nat → Nat → Nat → Res} {i : Nat} (hi : i < 10)
    (h : (Flag.g i).suffices f = true) (s tp : Nat) : allowed f (some Permissions.root) s tp = true := by
  have hon : ∀ i < 10, gBit Permissions.root.global i = true := by decide
  have hm : ∀ i < 10, Flag.g i ∈ Flag.all := by decide
  exact List.any_eq_true.2 ⟨.g i, List.mem_filter.2 ⟨hm i hi, h⟩, hon i hi⟩

end Iggy.Perm

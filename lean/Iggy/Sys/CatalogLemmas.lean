/-
Helper lemmas for the catalogue properties C05 (restart reproduces the acknowledged catalogue) and
C06 (the catalogue is a sequential map of uniquely named and numbered entities).  Split over
`Iggy/Sys/Catalog/*.lean`:

* `Assoc`      – ascending association lists as finite maps
* `View`       – the catalogue view (`viewY` / `viewR`), scopes, well-formedness
* `Lookup`     – resolution of identifiers, runtime and replay
* `Trans`      – the runtime's building blocks on the view
* `Replay`     – `applyEntry` / `loadCatalog` on the view
* `Spec`       – the two shapes of a step (`Spec.same`, `Spec.logged`)
* `Admin`, `AdminTopic`, `Data` – every operation satisfies `Spec`
* `Invariant`  – `Sys.WF`, `step_spec`, `wf_step`, `wf_run`
* `Restart`    – restarts under the invariant
* `Map`, `Create` – what the sequential-map results of C06 (Iggy/Props/C06.lean) rest on
-/
import Iggy.Sys.Catalog.Restart
import Iggy.Sys.Catalog.Map
import Iggy.Sys.Catalog.Create

/-
Frame ("sibling isolation") lemmas for the system model and the authentication layer: what an
operation leaves alone.  `step` is analysed once for the operations that name a topic (`step_topic`:
the outcome is a `TopicStep`) and once for those that name only a stream (`step_stream_op`:
a `StreamStep`); the frame lemmas per target are read off these two.  The property theorems are in
`Iggy/Props/Frame.lean`, whose numbered sections are the "targets" of the section titles here.
-/
import Iggy.Sys.CatalogLemmas
import Iggy.Sys.GroupLemmas
import Iggy.Sys.AuthLemmas
import Iggy.Sys.SendLemmas
namespace Iggy.Sys
open Iggy.Log Iggy.Perm

deriving instance DecidableEq for Topic
deriving instance DecidableEq for Stream

def Op.stream? : Op → Option Ident
  | .updateStream s _ | .deleteStream s | .purgeStream s | .createTopic s .. | .updateTopic s ..
  | .deleteTopic s _ | .purgeTopic s _ | .createParts s .. | .deleteParts s .. | .createGroup s ..
  | .deleteGroup s .. | .join _ s .. | .leave _ s .. | .groupInfo s .. | .groups s _ | .send s ..
  | .poll _ s .. | .flush s .. | .storeOffset _ s .. | .getOffset _ s .. | .deleteOffset _ s ..
  | .evict s .. | .topicInfo s _ | .topics s | .streamInfo s => some s
  | .clock _ | .createStream .. | .me .. | .close _ | .save | .maintain | .restart _ | .streams
  | .stats => none

def Op.topic? : Op → Option Ident
  | .updateTopic _ t .. | .deleteTopic _ t | .purgeTopic _ t | .createParts _ t _ | .deleteParts _ t _
  | .createGroup _ t .. | .deleteGroup _ t _ | .join _ _ t _ | .leave _ _ t _ | .groupInfo _ t ..
  | .groups _ t | .send _ t .. | .poll _ _ t .. | .flush _ t _ | .storeOffset _ _ t ..
  | .getOffset _ _ t .. | .deleteOffset _ _ t .. | .evict _ t .. | .topicInfo _ t => some t
  | _ => none

def Op.part? : Op → Option Nat
  | .send _ _ (.pid k) _ | .poll _ _ _ (some k) .. | .storeOffset _ _ _ (some k) ..
  | .getOffset _ _ _ (some k) _ | .deleteOffset _ _ _ (some k) _ | .flush _ _ k | .evict _ _ k _ => some k
  | _ => none

def Op.group? : Op → Option Ident
  | .deleteGroup _ _ g | .join _ _ _ g | .leave _ _ _ g | .groupInfo _ _ g _ => some g
  | _ => none

def Op.consumer? : Op → Option Consumer
  | .poll _ _ _ _ cons .. | .storeOffset _ _ _ _ cons _ | .getOffset _ _ _ _ cons
  | .deleteOffset _ _ _ _ cons => some cons
  | _ => none

/-- operations whose changes to a partition the effects do not name: `flush`, `evict`, `save` change where
a message is held (cache, buffer, disk), which no client sees and no effect reports; `maintain` (retention)
does remove messages and reports `dropped` for a partition only when its retained count shrinks -/
def Op.quiet : Op → Bool
  | .flush .. | .evict .. | .save | .maintain => true
  | _ => false

theorem Op.part?_poll (c : Nat) (s t : Ident) (pid : Option Nat) (cons : Consumer) (k : PollKind) (n : Nat)
    (a : Bool) : (Op.poll c s t pid cons k n a).part? = pid := by cases pid <;> rfl
theorem Op.part?_storeOffset (c : Nat) (s t : Ident) (pid : Option Nat) (cons : Consumer) (o : Nat) :
    (Op.storeOffset c s t pid cons o).part? = pid := by cases pid <;> rfl
theorem Op.part?_deleteOffset (c : Nat) (s t : Ident) (pid : Option Nat) (cons : Consumer) :
    (Op.deleteOffset c s t pid cons).part? = pid := by cases pid <;> rfl

@[simp] theorem Sys.journalAdd_streams (y : Sys) (e : Entry) : (y.journalAdd e).streams = y.streams := rfl
@[simp] theorem Sys.dropMemberships_streams (y : Sys) (f : Nat × Nat × Nat → Bool) :
    (y.dropMemberships f).streams = y.streams := rfl
@[simp] theorem Sys.putStream_streams (y : Sys) (s : Stream) :
    (y.putStream s).streams = insertAsc y.streams s.id s := rfl
@[simp] theorem Sys.putTopic_streams (y : Sys) (s : Stream) (t : Topic) :
    (y.putTopic s t).streams = insertAsc y.streams s.id (s.putTopic t) := rfl
@[simp] theorem Stream.putTopic_id (s : Stream) (t : Topic) : (s.putTopic t).id = s.id := rfl
@[simp] theorem Stream.putTopic_name (s : Stream) (t : Topic) : (s.putTopic t).name = s.name := rfl
@[simp] theorem Stream.putTopic_topics (s : Stream) (t : Topic) :
    (s.putTopic t).topics = insertAsc s.topics t.id t := rfl

/-- two writes of a topic in one step (an auto-committing `poll`: rotation cursor, then offset) -/
theorem Sys.putTopic_putTopic (y : Sys) (s : Stream) (t₀ t : Topic) :
    ((y.putTopic s t₀).putTopic s t).streams = (y.putTopic s t).streams := insertAsc_insertAsc ..

def Sys.stream? (y : Sys) (sid : Nat) : Option Stream := find? y.streams sid
def Sys.topic? (y : Sys) (sid tid : Nat) : Option Topic := topicOf y.streams sid tid
def Sys.part? (y : Sys) (k : PKey) : Option Part := partOf y.streams k

def Effect.key : Effect → PKey
  | .created k _ | .deleted k | .appended k _ _ | .purged k | .dropped k _ | .restarted k | .setExpiry k _
  | .offStored k _ _ _ | .offDeleted k _ _ => k

/-- `p'` is `p` with (at most) the stored offset of consumer `(grp, cid)` changed: the messages, cache,
counters and every other consumer's / group's offset are as in `p` -/
def OffsetOnly (grp : Bool) (cid : Nat) (p p' : Part) : Prop :=
  { p' with consOffs := p.consOffs, grpOffs := p.grpOffs } = p ∧
  ∀ grp' cid', (grp', cid') ≠ (grp, cid) → p'.getOffset grp' cid' = p.getOffset grp' cid'

theorem OffsetOnly.refl (grp : Bool) (cid : Nat) (p : Part) : OffsetOnly grp cid p p := ⟨rfl, fun _ _ _ => rfl⟩

theorem OffsetOnly.of_lookup {p : Part} {grp : Bool} {cid : Nat} {l : List (Nat × Nat)}
    (h : ∀ k, k ≠ cid → lookup l k = lookup (if grp then p.grpOffs else p.consOffs) k) :
    OffsetOnly grp cid p (if grp then { p with grpOffs := l } else { p with consOffs := l }) := by
  cases grp
  all_goals refine ⟨rfl, fun grp' cid' hne => ?_⟩
  all_goals cases grp'
  all_goals first
    | rfl
    | exact h cid' fun hc => hne (by rw [hc])

theorem Part.storeOffset_offsetOnly {p p' : Part} {grp : Bool} {cid off : Nat}
    (h : p.storeOffset grp cid off = .ok p') : OffsetOnly grp cid p p' := by
  unfold Part.storeOffset at h
  split at h
  · cases h
  · have := OffsetOnly.of_lookup (p := p) (grp := grp) fun k hk => (lookup_insertKV _ cid k off).trans (if_neg hk)
    cases grp <;> cases h <;> exact this

theorem Part.deleteOffset_offsetOnly {p p' : Part} {grp : Bool} {cid : Nat}
    (h : p.deleteOffset grp cid = .ok p') : OffsetOnly grp cid p p' := by
  unfold Part.deleteOffset at h
  split at h
  · cases h
  · have := OffsetOnly.of_lookup (p := p) (grp := grp) fun k hk => (lookup_eraseK _ cid k).trans (if_neg hk)
    cases grp <;> cases h <;> exact this

def OffsetOnlyOpt (grp : Bool) (cid : Nat) : Option Part → Option Part → Prop
  | some p, some p' => OffsetOnly grp cid p p'
  | none, none => True
  | _, _ => False

theorem OffsetOnlyOpt.refl (grp : Bool) (cid : Nat) (o : Option Part) : OffsetOnlyOpt grp cid o o := by
  cases o with
  | none => trivial
  | some p => exact OffsetOnly.refl grp cid p

/-! ## a step on a named topic -/

/-- what a step of `op` on topic `t` of stream `sid`, leaving `r` under `t.id` (`none`: the topic is gone)
and reporting `effs`, owes to what `op` names: the partitions it does not name are as they were, so is
(unless `op` is quiet) every partition that no effect names, and only the named consumer's stored
offset is written.  `effects` alone needs the partition ids to be `1..n` (for `deleteParts`). -/
structure TopicFrame (op : Op) (sid : Nat) (t : Topic) (r : Option Topic) (effs : List Effect) : Prop where
  parts : ∀ k, op.part? = some k → ∀ k', k' ≠ k → r.bind (fun t' => find? t'.parts k') = find? t.parts k'
  effects : op.quiet = false → t.parts.map (·.1) = List.range' 1 t.parts.length →
    ∀ c, (∀ e ∈ effs, e.key ≠ (sid, t.id, c)) → r.bind (fun t' => find? t'.parts c) = find? t.parts c
  offsets : ∀ cons, op.consumer? = some cons →
    ∀ c, OffsetOnlyOpt cons.grp cons.id (find? t.parts c) (r.bind (fun t' => find? t'.parts c))

namespace TopicFrame
variable {op : Op} {sid : Nat} {t t' : Topic} {r : Option Topic} {effs : List Effect}

theorem of_parts (hp : t'.parts = t.parts) : TopicFrame op sid t (some t') effs where
  parts _ _ _ _ := by rw [Option.bind_some, hp]
  effects _ _ _ _ := by rw [Option.bind_some, hp]
  offsets _ _ _ := by rw [Option.bind_some, hp]; exact .refl _ _ _

theorem of_effects (hp : op.part? = none) (hc : op.consumer? = none)
    (h : t.parts.map (·.1) = List.range' 1 t.parts.length →
      ∀ c, (∀ e ∈ effs, e.key ≠ (sid, t.id, c)) → r.bind (fun t' => find? t'.parts c) = find? t.parts c) :
    TopicFrame op sid t r effs where
  parts k hk := by rw [hp] at hk; cases hk
  effects _ := h
  offsets cons hc' := by rw [hc] at hc'; cases hc'

theorem putPart {t₀ : Topic} {pid : Nat} {p p' : Part} (h₀ : t₀.parts = t.parts) (hp : find? t.parts pid = some p)
    (hk : ∀ k, op.part? = some k → pid = k)
    (he : op.quiet = false → ∃ e ∈ effs, e.key = (sid, t.id, pid))
    (ho : ∀ cons, op.consumer? = some cons → OffsetOnly cons.grp cons.id p p') :
    TopicFrame op sid t (some (t₀.putPart pid p')) effs where
  parts k hk' k' hne := by
    cases hk k hk'
    simp only [Option.bind_some, Topic.putPart, h₀]
    exact find?_insertAsc_ne _ _ hne
  effects hq _ c hc := by
    obtain ⟨e, he, hek⟩ := he hq
    simp only [Option.bind_some, Topic.putPart, h₀]
    exact find?_insertAsc_ne _ _ (fun h => hc e he (h ▸ hek))
  offsets cons hc c := by
    simp only [Option.bind_some, Topic.putPart, h₀]
    by_cases hcp : c = pid
    · subst hcp; rw [hp, find?_insertAsc_self]; exact ho cons hc
    · rw [find?_insertAsc_ne _ _ hcp]; exact .refl _ _ _
end TopicFrame

theorem key_ne_of {effs : List Effect} {a b c k : Nat} (hc : ∀ e ∈ effs, e.key ≠ (a, b, c)) {e : Effect}
    (he : e ∈ effs) (hk : e.key = (a, b, k)) : k ≠ c := by
  rintro rfl; exact hc e he hk

/-- the outcome `x` of `op` on topic `t` of stream `s`: of the stream table only the entry under `s.id` is
written (`s'`), of `s.topics` only the entry under `t.id` is left alone, written or removed (`r`), and what
happens to that entry is within the `TopicFrame` of `op` -/
def TopicStep (y : Sys) (op : Op) (s : Stream) (t : Topic) (x : Sys × Out × List Effect) : Prop :=
  ∃ s' r, Upd s.id s y.streams x.1.streams (some s') ∧ Upd t.id t s.topics s'.topics r ∧
    TopicFrame op s.id t r x.2.2

namespace TopicStep
variable {y y' : Sys} {op : Op} {s : Stream} {t t' : Topic} {out : Out} {effs : List Effect}

theorem same : TopicStep y op s t (y, out, effs) := ⟨_, _, .same, .same, .of_parts rfl⟩

theorem put (hy : y'.streams = (y.putTopic s t').streams) (hid : t'.id = t.id)
    (hf : TopicFrame op s.id t (some t') effs) : TopicStep y op s t (y', out, effs) := by
  refine ⟨s.putTopic t', _, ?_, ?_, hf⟩
  · show Upd _ _ _ y'.streams _
    rw [hy]; exact .put _
  · rw [Stream.putTopic_topics, hid]; exact .put t'

theorem del {c : Nat}
    (hy : y'.streams = (y.putStream { s with topics := erase s.topics t.id, topicCursor := c }).streams)
    (hf : TopicFrame op s.id t none effs) : TopicStep y op s t (y', out, effs) := by
  refine ⟨{ s with topics := erase s.topics t.id, topicCursor := c }, _, ?_, .del, hf⟩
  show Upd _ _ _ y'.streams _
  rw [hy]; exact .put _

theorem withTopic {si ti : Ident} {f : Stream → Topic → Sys × Out × List Effect} (hs : y.findStream si = .ok s)
    (ht : s.findTopic ti = .ok t) (h : TopicStep y op s t (f s t)) : TopicStep y op s t (y.withTopic si ti f) := by
  simp only [Sys.withTopic, hs, ht]; exact h
end TopicStep

theorem step_topic (y : Sys) (op : Op) (si ti : Ident) (s : Stream) (t : Topic) (hop : op.stream? = some si)
    (hop' : op.topic? = some ti) (hs : y.findStream si = .ok s) (ht : s.findTopic ti = .ok t) :
    TopicStep y op s t (step y op) := by
  cases op <;> cases hop' <;> cases hop
  case groups => exact .withTopic hs ht .same
  case topicInfo => simp only [step, hs, ht]; exact .same
  case join | leave | groupInfo =>
    refine .withTopic hs ht ?_
    split
    · exact .same
    · exact .put rfl rfl (.of_parts rfl)
  case createGroup =>
    refine .withTopic hs ht ?_
    exact ite_of .same (ite_of (.put rfl rfl (.of_parts rfl)) (.put rfl rfl (.of_parts rfl)))
  case flush | evict =>
    refine .withTopic hs ht ?_
    split
    · exact .same
    · next p hp => exact .put rfl rfl (.putPart rfl hp (fun _ h => Option.some.inj h) nofun nofun)
  case send pt msgs =>
    refine .withTopic hs ht ?_
    rcases t.send_cases y.cfg y.scfg s.id y.now pt msgs with ⟨cur, out, he⟩ | ⟨cur, pid, p, p', hp, _, hpid, he⟩ <;>
      rw [he]
    · exact .put rfl rfl (.of_parts rfl)
    · refine .put rfl rfl (.putPart (t₀ := { t with cursor := cur }) rfl hp (fun k hk => ?_)
        (fun _ => ⟨_, List.mem_singleton_self _, rfl⟩) nofun)
      cases pt <;> cases hk
      exact hpid _ rfl
  -- the consumer operations: every leaf but the one that writes the offset leaves the partitions alone
  case getOffset c pid cons =>
    refine .withTopic hs ht ?_
    repeat' split
    all_goals exact .same
  case storeOffset c pid cons off =>
    refine .withTopic hs ht ?_
    rcases t.resolve_cases cons (y.clientOf c) pid false with ⟨e, he⟩ | ⟨_ | r, gs, he, hr, _⟩ <;> simp only [he]
    all_goals repeat' split
    any_goals exact .same
    rename_i _ p hp _ p' hp'
    exact .put rfl rfl (.putPart rfl hp
      (fun k hk => Option.some.inj (hr k ((Op.part?_storeOffset ..).symm.trans hk)))
      (fun _ => ⟨_, List.mem_singleton_self _, rfl⟩)
      (fun _ h => Option.some.inj h ▸ Part.storeOffset_offsetOnly hp'))
  case deleteOffset c pid cons =>
    refine .withTopic hs ht ?_
    rcases t.resolve_cases cons (y.clientOf c) pid false with ⟨e, he⟩ | ⟨_ | r, gs, he, hr, _⟩ <;> simp only [he]
    all_goals repeat' split
    any_goals exact .same
    rename_i _ p hp _ p' hp'
    exact .put rfl rfl (.putPart rfl hp
      (fun k hk => Option.some.inj (hr k ((Op.part?_deleteOffset ..).symm.trans hk)))
      (fun _ => ⟨_, List.mem_singleton_self _, rfl⟩)
      (fun _ h => Option.some.inj h ▸ Part.deleteOffset_offsetOnly hp'))
  case poll c pid cons kd count auto =>
    refine ite_of .same (.withTopic hs ht (ite_of .same ?_))
    rcases t.resolve_cases cons (y.clientOf c) pid true with ⟨e, he⟩ | ⟨_ | r, gs, he, hr, _⟩ <;> simp only [he]
    · exact .same
    -- `resolve` has moved the rotation cursor of the member: `groups := gs`
    all_goals have hf (effs) :
        TopicFrame (.poll c si ti pid cons kd count auto) s.id t (some { t with groups := gs }) effs := .of_parts rfl
    all_goals repeat' split
    any_goals exact .put rfl rfl (hf _)
    rename_i _ p hp _ _ _ _ _ p' hp'
    exact .put (Sys.putTopic_putTopic ..) rfl (.putPart rfl hp
      (fun k hk => Option.some.inj (hr k ((Op.part?_poll ..).symm.trans hk)))
      (fun _ => ⟨_, List.mem_singleton_self _, rfl⟩)
      (fun _ h => Option.some.inj h ▸ Part.storeOffset_offsetOnly hp'))
  case updateTopic name e m rp =>
    refine .withTopic hs ht ?_
    split
    · exact .same
    · refine ite_of .same (.put rfl rfl (.of_effects rfl rfl fun _ c hc => ?_))
      exact find?_map_val (fun pe => { pe.2 with expiry := resolveExpiry y.scfg e }) t.parts c
        (fun pe hpe hpc => absurd hpc (key_ne_of hc (List.mem_map.2 ⟨pe, hpe, rfl⟩) rfl))
  case purgeTopic =>
    refine .withTopic hs ht ?_
    refine .put rfl rfl (.of_effects rfl rfl fun _ c hc => ?_)
    exact find?_map_val (fun pe => pe.2.purge y.cfg y.now) t.parts c
      (fun pe hpe hpc => absurd hpc (key_ne_of hc (List.mem_map.2 ⟨pe, hpe, rfl⟩) rfl))
  case deleteTopic =>
    refine .withTopic hs ht ?_
    refine .del rfl (.of_effects rfl rfl fun _ c hc => ?_)
    exact (find?_eq_none.2 (fun pe hpe => key_ne_of hc (List.mem_map.2 ⟨pe, hpe, rfl⟩) rfl)).symm
  case deleteGroup gi =>
    refine .withTopic hs ht ?_
    split
    · exact .same
    · next g hg =>
      refine .put rfl rfl (.of_effects rfl rfl fun _ c hc => ?_)
      refine find?_map_val (fun pe => { pe.2 with grpOffs := eraseK pe.2.grpOffs g.id }) t.parts c
        (fun pe hpe hpc => ?_)
      cases hl : lookup pe.2.grpOffs g.id with
      | none => rw [show eraseK pe.2.grpOffs g.id = pe.2.grpOffs from erase_of_not_mem hl]
      | some o =>
        refine absurd hpc (key_ne_of hc (e := Effect.offDeleted (s.id, t.id, pe.1) true g.id) ?_ rfl)
        exact List.mem_filterMap.2 ⟨pe, hpe, by simp [hl]⟩
  case createParts n =>
    refine .withTopic hs ht ?_
    refine .put rfl rfl (.of_effects rfl rfl fun _ c hc => ?_)
    refine find?_append_of_not_mem _ _ _ (fun pe hpe => ?_)
    simp only [mkParts, List.mem_map, List.mem_range] at hpe
    obtain ⟨i, hi, rfl⟩ := hpe
    exact key_ne_of hc (e := Effect.created (s.id, t.id, t.parts.length + 1 + i) t.expiry)
      (List.mem_map.2 ⟨i, List.mem_range.2 hi, rfl⟩) rfl
  case deleteParts n =>
    simp only [step, Sys.withTopic, hs, ht]
    -- `m` = the number of partitions kept; the `n'` removed ones have the ids `m + 1 + i`, `i < n'`
    have hn : min n t.parts.length ≤ t.parts.length := Nat.min_le_right ..
    generalize min n t.parts.length = n' at hn ⊢
    obtain ⟨m, hm⟩ : ∃ m, t.parts.length = m + n' := ⟨_, (Nat.sub_add_cancel hn).symm⟩
    rw [hm, Nat.add_sub_cancel]
    refine .put rfl rfl (.of_effects rfl rfl fun hkeys c hc => ?_)
    refine find?_take_of_not_mem _ _ _ (fun pe hpe => ?_)
    have h1 : pe.1 ∈ (t.parts.map (·.1)).drop m := by
      rw [← List.map_drop]; exact List.mem_map.2 ⟨pe, hpe, rfl⟩
    rw [hkeys, List.drop_range', List.mem_range'_1] at h1
    exact key_ne_of hc (e := Effect.deleted (s.id, t.id, m + 1 + (pe.1 - (m + 1))))
      (List.mem_map.2 ⟨_, List.mem_range.2 (by omega), rfl⟩) (by rw [Effect.key, Nat.add_sub_cancel' (by omega)])

/-- `hk`, `hkt`: in a well-formed catalogue the named stream and topic are the entries under their ids -/
theorem step_topic_frame (y : Sys) (op : Op) (si ti : Ident) (s : Stream) (t : Topic) (hop : op.stream? = some si)
    (hop' : op.topic? = some ti) (hs : y.findStream si = .ok s) (ht : s.findTopic ti = .ok t)
    (hk : find? y.streams s.id = some s) (hkt : find? s.topics t.id = some t) :
    TopicFrame op s.id t (topicOf (step y op).1.streams s.id t.id) (step y op).2.2 := by
  obtain ⟨s', r, hS, hT, hF⟩ := step_topic y op si ti s t hop hop' hs ht
  rwa [topicOf_of_find (hS.find hk), hT.find hkt]

theorem step_unresolved_stream (y : Sys) (op : Op) (si : Ident) (e : String) (hop : op.stream? = some si)
    (hs : y.findStream si = .error e) : (step y op).1 = y := by
  cases op <;> cases hop
  all_goals simp only [step, Sys.withTopic, Sys.withPart, hs, apply_ite Prod.fst, ite_self]

theorem step_unresolved_topic (y : Sys) (op : Op) (si ti : Ident) (s : Stream) (e : String) (hop : op.stream? = some si)
    (hop' : op.topic? = some ti)
    (hs : y.findStream si = .ok s) (ht : s.findTopic ti = .error e) : (step y op).1 = y := by
  cases op <;> cases hop' <;> cases hop
  all_goals simp only [step, Sys.withTopic, Sys.withPart, hs, ht, apply_ite Prod.fst, ite_self]

/-! ## operations that name a stream but no topic -/

/-- the effect list of `purgeStream` / `deleteStream` (`E` = `purged` / `deleted`) names every partition of
every topic of `s` -/
theorem key_ne_of_stream {E : PKey → Effect} (hE : ∀ k, (E k).key = k) {s : Stream} {b c : Nat} {t : Topic}
    (hc : ∀ e ∈ (s.topics.map fun te => te.2.parts.map fun pe => E (s.id, te.1, pe.1)).flatten, e.key ≠ (s.id, b, c))
    (ht : find? s.topics b = some t) {pe : Nat × Part} (hpe : pe ∈ t.parts) : pe.1 ≠ c := by
  rintro rfl
  exact hc _ (List.mem_flatten.2 ⟨_, List.mem_map.2 ⟨(b, t), mem_of_find? ht, rfl⟩, List.mem_map.2 ⟨pe, hpe, rfl⟩⟩)
    (hE _)

/-- the outcome `x` of `op` on stream `s`: of the stream table only the entry under `s.id` is left alone,
written or removed (`r`); unless `op` purges or deletes the stream every topic entry of `s` is still there;
and a partition of `s` that no effect names is as it was -/
def StreamStep (y : Sys) (op : Op) (si : Ident) (s : Stream) (x : Sys × Out × List Effect) : Prop :=
  ∃ r, Upd s.id s y.streams x.1.streams r ∧
    (op ≠ .purgeStream si → op ≠ .deleteStream si →
      ∀ tid t, find? s.topics tid = some t → r.bind (fun s' => find? s'.topics tid) = some t) ∧
    ∀ b c, (∀ e ∈ x.2.2, e.key ≠ (s.id, b, c)) →
      (r.bind fun s' => find? s'.topics b).bind (fun t => find? t.parts c) =
        (find? s.topics b).bind fun t => find? t.parts c

theorem StreamStep.same {y : Sys} {op : Op} {si : Ident} {s : Stream} {out : Out} {effs : List Effect} :
    StreamStep y op si s (y, out, effs) :=
  ⟨_, .same, fun _ _ _ _ h => h, fun _ _ _ => rfl⟩

theorem StreamStep.of_topics {y : Sys} {op : Op} {si : Ident} {s s' : Stream} {out : Out} {effs : List Effect}
    (hid : s'.id = s.id) (ht : s'.topics = s.topics) : StreamStep y op si s (y.putStream s', out, effs) := by
  refine ⟨some s', ?_, fun _ _ _ _ h => ?_, fun _ _ _ => ?_⟩
  · rw [Sys.putStream_streams, hid]; exact .put s'
  · rw [Option.bind_some, ht]; exact h
  · rw [Option.bind_some, ht]

theorem StreamStep.newTopic {y y' : Sys} {op : Op} {si : Ident} {s : Stream} {c : Nat} {t : Topic} {out : Out}
    {effs : List Effect} (hy : y'.streams = (y.putTopic { s with topicCursor := c } t).streams)
    (hnew : ¬ (find? s.topics t.id).isSome = true)
    (he : ∀ pe ∈ t.parts, ∃ e ∈ effs, e.key = (s.id, t.id, pe.1)) : StreamStep y op si s (y', out, effs) := by
  refine ⟨some (Stream.putTopic { s with topicCursor := c } t), ?_, fun _ _ tid t₁ ht => ?_, fun b k hc => ?_⟩
  · show Upd _ _ _ y'.streams _
    rw [hy]; exact .put _
  · refine (find?_insertAsc_ne _ _ ?_).trans ht
    rintro rfl
    simp [ht] at hnew
  · simp only [Option.bind_some, Stream.putTopic_topics]
    by_cases hb : b = t.id
    · -- no topic was under the new id, and every partition of the new topic is named
      subst hb
      rw [find?_insertAsc_self, Option.not_isSome_iff_eq_none.1 hnew]
      exact find?_eq_none.2 fun pe hpe hpc => by
        obtain ⟨e, hmem, hek⟩ := he pe hpe
        exact hc e hmem (by rw [hek, hpc])
    · rw [find?_insertAsc_ne _ _ hb]

theorem step_stream_op (y : Sys) (op : Op) (si : Ident) (s : Stream) (hop : op.stream? = some si)
    (hop' : op.topic? = none) (hs : y.findStream si = .ok s) : StreamStep y op si s (step y op) := by
  cases op <;> cases hop' <;> cases hop
  case topics => simp only [step, hs]; exact .same
  case streamInfo => simp only [step, hs]; exact .same
  case updateStream name =>
    simp only [step, hs]
    exact ite_of .same (.of_topics rfl rfl)
  case deleteStream =>
    simp only [step, hs]
    refine ⟨_, .del, fun _ h => absurd rfl h, fun b c hc => ?_⟩
    cases ht : find? s.topics b with
    | none => rfl
    | some t =>
      exact (find?_eq_none.2 fun pe hpe => key_ne_of_stream (fun _ => rfl) hc ht hpe).symm
  case purgeStream =>
    simp only [step, hs]
    refine ⟨_, .put _, fun h => absurd rfl h, fun b c hc => ?_⟩
    simp only [Option.bind_some]
    rw [find?_map_snd (fun te : Nat × Topic => mapParts te.2 (fun p => p.purge y.cfg y.now))]
    cases ht : find? s.topics b with
    | none => rfl
    | some t =>
      exact find?_map_val (fun pe => pe.2.purge y.cfg y.now) t.parts c fun pe hpe hpc =>
        absurd hpc (key_ne_of_stream (fun _ => rfl) hc ht hpe)
  case createTopic id name n e m rp =>
    cases hm : resolveMax y.cfg y.scfg m with
    | error _ => simp only [step, hs, hm]; exact .same
    | ok maxSize =>
      obtain ⟨_, _, heq⟩ := step_createTopic hs hm id rfl name n e rp
      rw [heq]
      refine ite_of .same (ite_elim (fun _ => .of_topics rfl rfl) fun hnew => .newTopic rfl hnew fun pe hpe => ?_)
      simp only [mkParts, List.mem_map, List.mem_range] at hpe
      obtain ⟨i, hi, rfl⟩ := hpe
      exact ⟨_, List.mem_map.2 ⟨i, List.mem_range.2 hi, rfl⟩, rfl⟩

theorem step_stream_op_keeps_topics (y : Sys) (op : Op) (si : Ident) (s : Stream) (hop : op.stream? = some si)
    (hop' : op.topic? = none) (h1 : op ≠ .purgeStream si) (h2 : op ≠ .deleteStream si)
    (hs : y.findStream si = .ok s) (hk : find? y.streams s.id = some s) (tid : Nat) (t : Topic)
    (ht : find? s.topics tid = some t) : topicOf (step y op).1.streams s.id tid = some t := by
  obtain ⟨r, hU, hkeep, _⟩ := step_stream_op y op si s hop hop' hs
  rw [topicOf, hU.find hk]
  exact hkeep h1 h2 tid t ht

/-! ## target 1: streams -/

theorem step_streams_agreeOff (y : Sys) (op : Op) (si : Ident) (s : Stream) (hop : op.stream? = some si)
    (hs : y.findStream si = .ok s) : AgreeOff s.id y.streams (step y op).1.streams := by
  cases htp : op.topic? with
  | none =>
    obtain ⟨r, hU, _⟩ := step_stream_op y op si s hop htp hs
    exact hU.agreeOff
  | some ti =>
    cases ht : s.findTopic ti with
    | error e => rw [step_unresolved_topic y op si ti s e hop htp hs ht]; exact .refl _ _
    | ok t =>
      obtain ⟨s', r, hS, _⟩ := step_topic y op si ti s t hop htp hs ht
      exact hS.agreeOff

/-! ## target 2: topics -/

theorem step_topics_agreeOff (y : Sys) (op : Op) (si ti : Ident) (s : Stream) (t : Topic) (hop : op.stream? = some si)
    (hop' : op.topic? = some ti)
    (hs : y.findStream si = .ok s) (ht : s.findTopic ti = .ok t) (hk : find? y.streams s.id = some s)
    (tid' : Nat) (hne : tid' ≠ t.id) : topicOf (step y op).1.streams s.id tid' = find? s.topics tid' := by
  obtain ⟨s', r, hS, hT, _⟩ := step_topic y op si ti s t hop hop' hs ht
  rw [topicOf_of_find (hS.find hk)]
  exact hT.agreeOff tid' hne

/-! ## `close`: only member lists change -/

def Group.noMembers (g : Group) : Group := { g with members := [] }
def Topic.noMembers (t : Topic) : Topic := { t with groups := mapE (fun _ g => g.noMembers) t.groups }
def Stream.noMembers (s : Stream) : Stream := { s with topics := mapE (fun _ t => t.noMembers) s.topics }
def noMembers (l : List (Nat × Stream)) : List (Nat × Stream) := mapE (fun _ s => s.noMembers) l

theorem Group.noMembers_deleteMember (g : Group) (c : Nat) : (g.deleteMember c).noMembers = g.noMembers := by
  unfold Group.deleteMember; split <;> rfl

theorem closeOne_noMembers {acc : Sys} (h : acc.CatWF) (client : Nat) (k : Nat × Nat × Nat) :
    noMembers (closeOne client acc k).streams = noMembers acc.streams := by
  rcases closeOne_cases h client k with ⟨_, he⟩ | ⟨s, t, g, hs, ht, hT, hg, _, he⟩ <;> rw [he]
  have hS := h.stream hs
  simp only [Sys.putTopic_streams, noMembers]
  apply mapE_insertAsc_same _ h.scope.asc (find?_of_mem h.scope.asc hs)
  simp only [Stream.noMembers, Stream.putTopic_topics, Stream.putTopic_id, Stream.putTopic_name]
  congr 1
  apply mapE_insertAsc_same _ hS.scope.asc (find?_of_mem hS.scope.asc ht)
  simp only [Topic.noMembers, Topic.putGroup]
  congr 1
  apply mapE_insertAsc_same _ hT.scope.asc
  · rw [Group.deleteMember_id]; exact find?_of_mem hT.scope.asc hg
  · exact Group.noMembers_deleteMember _ _

theorem close_noMembers {y : Sys} (h : y.CatWF) (c : Nat) :
    noMembers (step y (.close c)).1.streams = noMembers y.streams := by
  simp only [step]
  exact closeFold_induction (P := fun acc => noMembers acc.streams = noMembers y.streams)
    (fun acc k ha hp => (closeOne_noMembers ha _ k).trans hp) _ h rfl

theorem partOf_noMembers (l : List (Nat × Stream)) (k : PKey) : partOf (noMembers l) k = partOf l k := by
  simp only [partOf, topicOf, noMembers, find?_mapE]
  cases find? l k.1 with
  | none => rfl
  | some s =>
    simp only [Option.map_some, Option.bind_some, Stream.noMembers, find?_mapE]
    cases find? s.topics k.2.1 with
    | none => rfl
    | some t => rfl

theorem groupOf_putGroup {l : List (Nat × Stream)} {s : Stream} {t : Topic} (hk : find? l s.id = some s)
    (hkt : find? s.topics t.id = some t) (g' : Group) (a : Nat × Nat × Nat) :
    groupOf (insertAsc l s.id (s.putTopic (t.putGroup g'))) a =
      if a = (s.id, t.id, g'.id) then some g' else groupOf l a := by
  obtain ⟨a1, a2, a3⟩ := a
  simp only [groupOf, topicOf]
  by_cases h1 : a1 = s.id
  · subst h1
    rw [find?_insertAsc_self, hk]
    simp only [Option.bind_some, Stream.putTopic_topics, Topic.putGroup]
    by_cases h2 : a2 = t.id
    · subst h2
      rw [find?_insertAsc_self, hkt]
      simp only [Option.bind_some]
      by_cases h3 : a3 = g'.id
      · subst h3; rw [find?_insertAsc_self, if_pos rfl]
      · rw [find?_insertAsc_ne _ _ h3, if_neg (by simp [h3])]
    · rw [find?_insertAsc_ne _ _ h2, if_neg (by simp [h2])]
  · rw [find?_insertAsc_ne _ _ h1, if_neg (by simp [h1])]

theorem closeOne_groupOf {acc : Sys} (h : acc.CatWF) (client : Nat) (k a : Nat × Nat × Nat) :
    groupOf (closeOne client acc k).streams a =
      (groupOf acc.streams a).map (fun g => if a = k then g.deleteMember client else g) := by
  rcases closeOne_cases h client k with ⟨hn, he⟩ | ⟨s, t, g, hs, ht, hT, hg, rfl, he⟩ <;> rw [he]
  · by_cases ha : a = k
    · rw [ha, hn]; rfl
    · simp [ha]
  · have hk := find?_of_mem h.scope.asc hs
    have hkt := find?_of_mem (h.stream hs).scope.asc ht
    rw [Sys.putTopic_streams, groupOf_putGroup hk hkt, Group.deleteMember_id]
    by_cases ha : a = (s.id, t.id, g.id)
    · have hg' : groupOf acc.streams a = some g := by
        simp [ha, groupOf, topicOf, hk, hkt, find?_of_mem hT.scope.asc hg]
      rw [hg', if_pos ha, Option.map_some, if_pos ha]
    · simp [ha]

/-! ## target 4: effects name what changed -/

theorem partOf_congr_stream {l l' : List (Nat × Stream)} {a : Nat} (h : find? l' a = find? l a) (b c : Nat) :
    partOf l' (a, b, c) = partOf l (a, b, c) := by
  simp only [partOf, topicOf, h]

theorem mem_allKeys_of_partOf {y : Sys} {k : PKey} {p : Part} (h : partOf y.streams k = some p) : k ∈ y.allKeys := by
  obtain ⟨a, b, c⟩ := k
  simp only [partOf, topicOf, Option.bind_eq_some_iff] at h
  obtain ⟨t, ⟨s, hs, ht⟩, hp⟩ := h
  exact mem_allKeys.2 ⟨_, mem_of_find? hs, _, mem_of_find? ht, _, mem_of_find? hp, rfl⟩

theorem partOf_none_of_not_mem {y : Sys} {k : PKey} (h : k ∉ y.allKeys) : partOf y.streams k = none := by
  cases hp : partOf y.streams k with
  | none => rfl
  | some p => exact absurd (mem_allKeys_of_partOf hp) h

/-- restart: every partition key of the old or of the new state is named by an effect -/
theorem step_restart_effects (y : Sys) (cl : List (PKey × Nat)) (k : PKey)
    (hc : ∀ e ∈ (step y (.restart cl)).2.2, e.key ≠ k) :
    partOf (step y (.restart cl)).1.streams k = partOf y.streams k := by
  by_cases hp : (replay y.journal).panicked = true
  · simp only [step, hp, if_true]
  · have hp' : (replay y.journal).panicked = false := by simpa using hp
    simp only [step, hp', Bool.false_eq_true, if_false] at hc ⊢
    generalize loadCatalog y (replay y.journal) cl = y' at hc ⊢
    by_cases h1 : k ∈ y'.allKeys
    · by_cases h2 : k ∈ y.allKeys
      · exact absurd rfl (hc (.restarted k) (by simp [h1, h2]))
      · exact absurd rfl (hc (.created k none) (by simp [h1, h2]))
    · by_cases h2 : k ∈ y.allKeys
      · exact absurd rfl (hc (.deleted k) (by simp [h1, h2]))
      · rw [partOf_none_of_not_mem h1, partOf_none_of_not_mem h2]

theorem partOf_insert_empty (l : List (Nat × Stream)) {sid : Nat} {s : Stream} (hs : s.topics = [])
    (hnew : ¬ (find? l sid).isSome = true) (k : PKey) : partOf (insertAsc l sid s) k = partOf l k := by
  obtain ⟨a, b, c⟩ := k
  by_cases ha : a = sid
  · subst ha
    simp only [Option.isSome_iff_ne_none, ne_eq, Decidable.not_not] at hnew
    simp [partOf, topicOf, find?_insertAsc_self, hnew, hs]
  · exact partOf_congr_stream (find?_insertAsc_ne _ _ ha) b c

theorem step_nostream_effects {y : Sys} (h : y.CatWF) (op : Op) (hop : op.stream? = none) (hq : op.quiet = false)
    (k : PKey) (hc : ∀ e ∈ (step y op).2.2, e.key ≠ k) : partOf (step y op).1.streams k = partOf y.streams k := by
  cases op <;> cases hop
  case save => simp [Op.quiet] at hq
  case maintain => simp [Op.quiet] at hq
  case restart cl => exact step_restart_effects y cl k hc
  case close c => rw [← partOf_noMembers, close_noMembers h, partOf_noMembers]
  case createStream id name =>
    simp only [step]
    let P (x : Sys × Out × List Effect) : Prop := partOf x.1.streams k = partOf y.streams k
    show P _
    exact ite_elim (fun _ => rfl) fun _ => ite_elim (fun _ => rfl) fun hnew => partOf_insert_empty _ rfl hnew _
  all_goals rfl

theorem step_effects_name_changes {y : Sys} (h : y.CatWF) (op : Op) (hq : op.quiet = false) (k : PKey)
    (hc : ∀ e ∈ (step y op).2.2, e.key ≠ k) : partOf (step y op).1.streams k = partOf y.streams k := by
  -- by where `k` lies: in another stream (`step_streams_agreeOff`), in another topic of the named stream
  -- (`step_topics_agreeOff`), in the named topic (`TopicFrame.effects`); no topic named: `StreamStep`
  cases hst : op.stream? with
  | none => exact step_nostream_effects h op hst hq k hc
  | some si =>
    cases hs : y.findStream si with
    | error e => rw [step_unresolved_stream y op si e hst hs]
    | ok s =>
      have hk := h.find_stream hs
      obtain ⟨a, b, c⟩ := k
      by_cases ha : a = s.id
      · subst ha
        cases htp : op.topic? with
        | none =>
          obtain ⟨r, hU, _, he⟩ := step_stream_op y op si s hst htp hs
          rw [partOf, partOf, topicOf, topicOf, hU.find hk, hk]
          exact he b c hc
        | some ti =>
          cases ht : s.findTopic ti with
          | error e => rw [step_unresolved_topic y op si ti s e hst htp hs ht]
          | ok t =>
            have hkt := h.find_topic hs ht
            by_cases hb : b = t.id
            · subst hb
              rw [partOf_of_find hk hkt]
              exact (step_topic_frame y op si ti s t hst htp hs ht hk hkt).effects hq (h.part_keys hs ht) c hc
            · rw [partOf, partOf, step_topics_agreeOff y op si ti s t hst htp hs ht hk b hb, topicOf_of_find hk]
      · exact partOf_congr_stream (step_streams_agreeOff y op si s hst hs a ha) b c

/-! ## the quiet operations, exactly -/

/-- the shape of `flush` and `evict` in `step` -/
theorem withPart_put_part (y : Sys) {si ti : Ident} (k : Nat) (f : Part → Part) {s : Stream} {t : Topic}
    (hs : y.findStream si = .ok s) (ht : s.findTopic ti = .ok t) (hk : find? y.streams s.id = some s)
    (hkt : find? s.topics t.id = some t) {x : Sys × Out × List Effect}
    (hx : x = y.withPart si ti k fun s t p => (y.putTopic s (t.putPart k (f p)), .ok, [])) :
    partOf x.1.streams (s.id, t.id, k) = (find? t.parts k).map f ∧ x.2.2 = [] := by
  subst hx
  simp only [Sys.withTopic, Sys.withPart, hs, ht]
  split
  · next h => simp [partOf, topicOf, hk, hkt, h]
  · next p h => simp [partOf, topicOf, find?_insertAsc_self, Topic.putPart, h]

theorem step_flush_part (y : Sys) (si ti : Ident) (k : Nat) (s : Stream) (t : Topic)
    (hs : y.findStream si = .ok s) (ht : s.findTopic ti = .ok t) (hk : find? y.streams s.id = some s)
    (hkt : find? s.topics t.id = some t) :
    partOf (step y (.flush si ti k)).1.streams (s.id, t.id, k) = (find? t.parts k).map (fun p => p.flush y.cfg) :=
  (withPart_put_part y k _ hs ht hk hkt rfl).1

theorem step_evict_part (y : Sys) (si ti : Ident) (k keep : Nat) (s : Stream) (t : Topic)
    (hs : y.findStream si = .ok s) (ht : s.findTopic ti = .ok t) (hk : find? y.streams s.id = some s)
    (hkt : find? s.topics t.id = some t) :
    partOf (step y (.evict si ti k keep)).1.streams (s.id, t.id, k) = (find? t.parts k).map (fun p => p.evict keep) :=
  (withPart_put_part y k _ hs ht hk hkt rfl).1

theorem Part.evict_only_cache (p : Part) (keep : Nat) : p.evict keep = { p with cache := (p.evict keep).cache } := rfl

theorem step_send_one_partition (y : Sys) (si ti : Ident) (pt : Partitioning) (msgs : List InMsg) (s : Stream)
    (t : Topic) (hs : y.findStream si = .ok s) (ht : s.findTopic ti = .ok t) :
    ((step y (.send si ti pt msgs)).2.2 = [] ∧
      ∀ c, partOf (step y (.send si ti pt msgs)).1.streams (s.id, t.id, c) = find? t.parts c) ∨
    (∃ pid pOld pNew, (step y (.send si ti pt msgs)).2.2 = [.appended (s.id, t.id, pid) y.now msgs] ∧
      (∀ k, pt = .pid k → pid = k) ∧
      find? t.parts pid = some pOld ∧ pOld.append y.cfg y.now msgs = .ok pNew ∧
      partOf (step y (.send si ti pt msgs)).1.streams (s.id, t.id, pid) = some pNew ∧
      ∀ c, c ≠ pid → partOf (step y (.send si ti pt msgs)).1.streams (s.id, t.id, c) = find? t.parts c) := by
  simp only [step, Sys.withTopic, hs, ht]
  rcases t.send_cases y.cfg y.scfg s.id y.now pt msgs with ⟨cur, out, he⟩ | ⟨cur, pid, p, p', hp, hp', hpid, he⟩
  · left
    simp [he, partOf, topicOf, find?_insertAsc_self]
  · right
    refine ⟨pid, p, p', by simp [he], hpid, hp, hp', by simp [he, partOf, topicOf, find?_insertAsc_self], ?_⟩
    intro c hc
    simp [he, partOf, topicOf, find?_insertAsc_self, find?_insertAsc_ne _ _ hc]

/-! ## consumer groups -/

theorem step_groups_agreeOff (y : Sys) (op : Op) (si ti gi : Ident) (s : Stream) (t : Topic) (g : Group)
    (hop : op.stream? = some si) (hop' : op.topic? = some ti) (hop'' : op.group? = some gi)
    (hs : y.findStream si = .ok s) (ht : s.findTopic ti = .ok t) (hg : t.findGroup gi = .ok g)
    (gid' : Nat) (hne : gid' ≠ g.id) :
    groupOf (step y op).1.streams (s.id, t.id, gid') = find? t.groups gid' := by
  cases op <;> cases hop'' <;> cases hop' <;> cases hop
  all_goals simp only [step, Sys.withTopic, hs, ht, hg]
  all_goals simp [groupOf, topicOf, find?_insertAsc_self, Topic.putGroup, find?_insertAsc_ne _ _ hne,
    find?_erase_ne _ hne, Group.deleteMember_id, Group.addMember_id, Group.adoptOrder_id]

/-! ## target 5: the authentication layer -/

deriving instance DecidableEq for User

def AOp.user? : AOp → Option Ident
  | .deleteUser _ u | .updateUser _ u _ _ | .updatePerms _ u _ | .changePw _ u _ _ | .userInfo _ u => some u
  | _ => none

/-- `cleanPats` is the background cleaner, issued on no connection -/
def AOp.conn? : AOp → Option Nat
  | .ping c | .login c .. | .loginPat c _ | .logout c | .createUser c .. | .deleteUser c _ | .updateUser c ..
  | .updatePerms c .. | .changePw c .. | .userInfo c _ | .users c | .createPat c .. | .deletePat c _ | .pats c
  | .core c _ => some c
  | .cleanPats => none

@[simp] theorem ASys.putUser_users (a : ASys) (u : User) : (a.putUser u).users = insertAsc a.users u.id u := rfl
@[simp] theorem ASys.putUser_sessions (a : ASys) (u : User) : (a.putUser u).sessions = a.sessions := rfl
@[simp] theorem ASys.putUser_sys (a : ASys) (u : User) : (a.putUser u).sys = a.sys := rfl

def UserStep (a : ASys) (k : Nat) (x : ASys × Out × List Effect) : Prop :=
  AgreeOff k a.users x.1.users ∧ x.1.sessions = a.sessions ∧ x.1.sys = a.sys

theorem UserStep.same {a : ASys} {k : Nat} {out : Out} {effs : List Effect} : UserStep a k (a, out, effs) :=
  ⟨.refl _ _, rfl, rfl⟩

theorem stepA0_user_frame (a : ASys) (op : AOp) (ui : Ident) (u : User) (hop : op.user? = some ui)
    (hu : a.findUser ui = some u) :
    AgreeOff u.id a.users (stepA0 a op).1.users ∧ (stepA0 a op).1.sessions = a.sessions ∧
    (stepA0 a op).1.sys = a.sys := by
  cases op <;> cases hop
  all_goals simp only [stepA0, hu]
  all_goals show UserStep a u.id _
  -- the checks in front (authenticated, authorised, …) refuse and change nothing
  case deleteUser => exact ite_of .same (ite_of .same (ite_of .same ⟨(AgreeOff.refl _ _).erase, rfl, rfl⟩))
  case updateUser | updatePerms | changePw =>
    exact ite_of .same (ite_of .same (ite_of .same ⟨(AgreeOff.refl _ _).insert _, rfl, rfl⟩))
  case userInfo => exact ite_of .same (ite_of .same .same)

theorem stepA0_user_unresolved (a : ASys) (op : AOp) (ui : Ident) (hop : op.user? = some ui)
    (hu : a.findUser ui = none) : (stepA0 a op).1 = a := by
  cases op <;> cases hop
  all_goals simp only [stepA0, hu, apply_ite Prod.fst, ite_self]

theorem stepA0_pat_frame (a : ASys) (op : AOp) (c : Nat) (u : User)
    (hop : (∃ n e, op = .createPat c n e) ∨ (∃ n, op = .deletePat c n) ∨ op = .pats c)
    (hu : find? a.users (a.userOf c) = some u) :
    AgreeOff u.id a.users (stepA0 a op).1.users ∧ (stepA0 a op).1.sessions = a.sessions ∧
    (stepA0 a op).1.sys = a.sys := by
  rcases hop with ⟨n, e, rfl⟩ | ⟨n, rfl⟩ | rfl
  all_goals simp only [stepA0, hu]
  all_goals show UserStep a u.id _
  · exact ite_of .same (ite_of .same (ite_of .same ⟨(AgreeOff.refl _ _).insert _, rfl, rfl⟩))
  · exact ite_of .same (ite_of .same ⟨(AgreeOff.refl _ _).insert _, rfl, rfl⟩)
  · exact ite_of .same .same

theorem stepA0_pat_sessions (a : ASys) (op : AOp) (c : Nat)
    (hop : (∃ n e, op = .createPat c n e) ∨ (∃ n, op = .deletePat c n) ∨ op = .pats c) :
    (stepA0 a op).1.sessions = a.sessions := by
  cases hu : find? a.users (a.userOf c) with
  | some u => exact (stepA0_pat_frame a op c u hop hu).2.1
  | none =>
    rcases hop with ⟨n, e, rfl⟩ | ⟨n, rfl⟩ | rfl
    all_goals simp only [stepA0, hu]
    all_goals split <;> rfl

theorem stepA0_login_frame (a : ASys) (op : AOp) (c : Nat)
    (hop : (∃ n p, op = .login c n p) ∨ (∃ k, op = .loginPat c k) ∨ op = .logout c) :
    (stepA0 a op).1 = { a with sessions := (stepA0 a op).1.sessions } ∧
    AgreeOff c a.sessions (stepA0 a op).1.sessions := by
  by_cases hr : Refused a (stepA0 a op)
  · rw [hr.fst]; exact ⟨rfl, AgreeOff.refl _ _⟩
  rcases hop with ⟨n, p, rfl⟩ | ⟨k, rfl⟩ | rfl
  · obtain ⟨_, _, _, _, _, he⟩ := stepA0_login_ok hr
    rw [he]; exact ⟨rfl, (AgreeOff.refl _ _).insert _⟩
  · obtain ⟨_, _, _, _, _, _, _, _, he⟩ := stepA0_loginPat_ok hr
    rw [he]; exact ⟨rfl, (AgreeOff.refl _ _).insert _⟩
  · rw [(stepA0_logout_ok hr).2]; exact ⟨rfl, (AgreeOff.refl _ _).erase⟩

theorem stepA0_sessions (a : ASys) (op : AOp) (hr : ∀ c cl, op ≠ .core c (.restart cl)) :
    (stepA0 a op).1.sessions = a.sessions ∨
    ∃ c, ((∃ n p, op = .login c n p) ∨ (∃ k, op = .loginPat c k) ∨ op = .logout c ∨ ∃ cc, op = .core c (.close cc)) ∧
      AgreeOff c a.sessions (stepA0 a op).1.sessions := by
  cases op
  case core c cop =>
    rcases stepA0_core a c cop (fun cl h => hr c cl (by rw [h])) with h | ⟨h, _⟩ | ⟨h, cc, rfl⟩
    · exact .inl (by rw [h])
    · exact .inl (by rw [h])
    · exact .inr ⟨c, .inr (.inr (.inr ⟨cc, rfl⟩)), by rw [h]; exact (AgreeOff.refl _ _).erase⟩
  case login c n p => exact .inr ⟨c, .inl ⟨n, p, rfl⟩, (stepA0_login_frame a _ c (.inl ⟨n, p, rfl⟩)).2⟩
  case loginPat c k => exact .inr ⟨c, .inr (.inl ⟨k, rfl⟩), (stepA0_login_frame a _ c (.inr (.inl ⟨k, rfl⟩))).2⟩
  case logout c => exact .inr ⟨c, .inr (.inr (.inl rfl)), (stepA0_login_frame a _ c (.inr (.inr rfl))).2⟩
  all_goals left
  case deleteUser _ ui | updateUser _ ui _ _ | updatePerms _ ui _ | changePw _ ui _ _ | userInfo _ ui =>
    cases hu : a.findUser ui with
    | none => rw [stepA0_user_unresolved a _ ui rfl hu]
    | some u => exact (stepA0_user_frame a _ ui u rfl hu).2.1
  case createPat c n e => exact stepA0_pat_sessions a _ c (.inl ⟨n, e, rfl⟩)
  case deletePat c n => exact stepA0_pat_sessions a _ c (.inr (.inl ⟨n, rfl⟩))
  case pats c => exact stepA0_pat_sessions a _ c (.inr (.inr rfl))
  -- `ping`, `createUser`, `users`, `cleanPats`: no branch writes a session
  all_goals simp only [stepA0, apply_ite (fun x : ASys × Out × List Effect => x.1.sessions), ite_self]

end Iggy.Sys

/-
Crash recovery of one segment (`Iggy/Log/Crash.lean`): `reconcile` maps every durable image a process
death can leave while a batch is being persisted to a clean disk state, `Seg.load` of a clean disk state
followed by the end-offset fix-up of `Part.load` (`recoverLast`) satisfies the segment invariant, and the
partition `Part.load` builds on the surviving files satisfies the partition invariant and holds a prefix of the
accepted messages.
-/
import Iggy.Log.Crash
import Iggy.Log.Lemmas.Restart
namespace Iggy.Log

@[simp] theorem endPos_zero (l : List Batch) : endPos l 0 = 0 := by simp [endPos]

@[simp] theorem endPos_cons_succ (b : Batch) (l : List Batch) (j : Nat) :
    endPos (b :: l) (j + 1) = b.bytes + endPos l j := by simp [endPos]

theorem endPos_length (l : List Batch) : endPos l l.length = logBytes l := by simp [endPos]

/-- strict, because every batch occupies at least its 24-byte header -/
theorem endPos_lt {l : List Batch} {j k : Nat} (hjk : j < k) (hk : k ≤ l.length) :
    endPos l j < endPos l k := by
  induction l generalizing j k with
  | nil => simp at hk; omega
  | cons b l ih =>
    cases k with
    | zero => omega
    | succ k =>
      cases j with
      | zero => have := b.bytes_pos; simp only [endPos_zero, endPos_cons_succ]; omega
      | succ j =>
        have := ih (j := j) (k := k) (by omega) (by simpa using hk)
        simp only [endPos_cons_succ]; omega

theorem endPos_inj {l : List Batch} {j k : Nat} (hj : j ≤ l.length) (hk : k ≤ l.length)
    (h : endPos l j = endPos l k) : j = k := by
  rcases Nat.lt_trichotomy j k with hlt | heq | hgt
  · have := endPos_lt hlt hk; omega
  · exact heq
  · have := endPos_lt hgt hj; omega

theorem endPos_take {l : List Batch} {j k : Nat} (hjk : j ≤ k) : endPos (l.take k) j = endPos l j := by
  simp [endPos, List.take_take, Nat.min_eq_left hjk]

theorem endPos_append_left {l : List Batch} (l' : List Batch) {j : Nat} (hj : j ≤ l.length) :
    endPos (l ++ l') j = endPos l j := by
  simp [endPos, List.take_append_of_le_length hj]

/-- the batch that starts at `endPos l j` is found by the scan of `reconcile` -/
theorem find_endPos {l : List Batch} {j : Nat} (hj : j < l.length) :
    (List.range l.length).find? (fun i => endPos l i == endPos l j) = some j := by
  rw [List.find?_range_eq_some]
  refine ⟨by simp, by simpa using hj, ?_⟩
  intro i hi
  have := endPos_lt hi (Nat.le_of_lt hj)
  simp; omega

theorem idxValid_iff {l : List Batch} {e : Idx} :
    idxValid l e = true ↔ ∃ j, j < l.length ∧ endPos l j = e.pos := by
  simp [idxValid]

theorem idxValid_beyond {l : List Batch} {e : Idx} (h : logBytes l ≤ e.pos) : idxValid l e = false := by
  cases hv : idxValid l e with
  | false => rfl
  | true =>
    obtain ⟨j, hj, he⟩ := idxValid_iff.1 hv
    have := endPos_lt hj (Nat.le_refl _)
    rw [endPos_length] at this
    omega

theorem mem_mkIdx_pos {st pos : Nat} {l : List Batch} {e : Idx} (h : e ∈ mkIdx st pos l) :
    ∃ j, j < l.length ∧ e.pos = pos + endPos l j := by
  induction l generalizing pos with
  | nil => simp at h
  | cons b l ih =>
    simp only [mkIdx, List.mem_cons] at h
    rcases h with rfl | h
    · exact ⟨0, by simp, by simp⟩
    · obtain ⟨j, hj, he⟩ := ih h
      exact ⟨j + 1, by simpa using hj, by rw [he, endPos_cons_succ]; omega⟩

theorem idxValid_mkIdx_take {st : Nat} {l : List Batch} {k : Nat} {e : Idx}
    (h : e ∈ mkIdx st 0 (l.take k)) : idxValid l e = true := by
  obtain ⟨j, hj, he⟩ := mem_mkIdx_pos h
  rw [List.length_take] at hj
  rw [idxValid_iff]
  refine ⟨j, by omega, ?_⟩
  rw [he, endPos_take (by omega)]; omega

theorem mkIdx_take_getLast {st : Nat} {l : List Batch} {k : Nat} (hk : k < l.length) :
    ∃ e, (mkIdx st 0 (l.take (k + 1))).getLast? = some e ∧ e.pos = endPos l k := by
  rw [← List.take_append_getElem hk, mkIdx_snoc]
  exact ⟨{ rel := l[k].base + l[k].lastDelta - st, pos := 0 + logBytes (l.take k), ts := l[k].maxTs },
    by simp, by simp [endPos]⟩

/-- step 1 of `reconcile`: the index records kept -/
def recKeep (log : List Batch) (idx : List Idx) : List Idx :=
  (idx.reverse.dropWhile (fun e => !idxValid log e)).reverse

/-- the number of batches the kept records cover -/
def recCovered (log : List Batch) (keep : List Idx) : Nat :=
  match keep.getLast? with
  | some e => (((List.range log.length).find? (fun i => endPos log i == e.pos)).map (· + 1)).getD 0
  | none => 0

theorem reconcile_eq (d : SegDisk) :
    reconcile d =
      { d with
        idx := recKeep d.log d.idx ++
          mkIdx d.start (endPos d.log (recCovered d.log (recKeep d.log d.idx)))
            (d.log.drop (recCovered d.log (recKeep d.log d.idx)))
        idxTorn := false, logTorn := false } := rfl

@[simp] theorem reconcile_log (d : SegDisk) : (reconcile d).log = d.log := rfl
@[simp] theorem reconcile_start (d : SegDisk) : (reconcile d).start = d.start := rfl
@[simp] theorem reconcile_logTorn_eq (d : SegDisk) : (reconcile d).logTorn = false := rfl
@[simp] theorem reconcile_idxTorn_eq (d : SegDisk) : (reconcile d).idxTorn = false := rfl

theorem recKeep_append {log : List Batch} {good junk : List Idx}
    (hgood : ∀ e ∈ good, idxValid log e = true) (hjunk : ∀ e ∈ junk, idxValid log e = false) :
    recKeep log (good ++ junk) = good := by
  unfold recKeep
  rw [List.reverse_append, List.dropWhile_append_of_pos (by
    intro e he
    simp [hjunk e (List.mem_reverse.1 he)])]
  have : good.reverse.dropWhile (fun e => !idxValid log e) = good.reverse := by
    cases hr : good.reverse with
    | nil => rfl
    | cons a r =>
      have ha : a ∈ good := by
        have : a ∈ good.reverse := by simp [hr]
        exact List.mem_reverse.1 this
      exact List.dropWhile_cons_of_neg (by simp [hgood a ha])
  rw [this, List.reverse_reverse]

theorem recCovered_mkIdx_take {st : Nat} {l : List Batch} {k : Nat} (hk : k ≤ l.length) :
    recCovered l (mkIdx st 0 (l.take k)) = k := by
  unfold recCovered
  cases k with
  | zero => simp
  | succ k =>
    obtain ⟨e, he, hpos⟩ := mkIdx_take_getLast (st := st) (l := l) (k := k) hk
    simp only [he, hpos, find_endPos hk, Option.map_some, Option.getD_some]

def cleanDisk (start : Nat) (log : List Batch) : SegDisk :=
  { start := start, log := log, logTorn := false, idx := mkIdx start 0 log, idxTorn := false }

/-- Whenever the index file consists of the index of the first `k` batches of the log followed by records
that do not describe a complete batch, `reconcile` produces the clean state of the same log: the junk is
dropped, the batches beyond `k` are indexed, torn tails are cut. -/
theorem reconcile_of_prefix {d : SegDisk} {k : Nat} {junk : List Idx} (hk : k ≤ d.log.length)
    (hidx : d.idx = mkIdx d.start 0 (d.log.take k) ++ junk)
    (hjunk : ∀ e ∈ junk, idxValid d.log e = false) : reconcile d = cleanDisk d.start d.log := by
  rw [reconcile_eq, hidx, recKeep_append (fun e he => idxValid_mkIdx_take he) hjunk,
    recCovered_mkIdx_take hk]
  have h1 : endPos d.log k = 0 + logBytes (d.log.take k) := by simp [endPos]
  rw [h1, ← mkIdx_append, List.take_append_drop]
  rfl

theorem SegDisk.Consistent.eq_cleanDisk {d : SegDisk} (h : d.Consistent) : d = cleanDisk d.start d.log := by
  obtain ⟨h1, h2, h3, -⟩ := h
  cases d
  simp_all [cleanDisk]

theorem cleanDisk_consistent {start : Nat} {log : List Batch} (hwf : ∀ b ∈ log, b.WF) :
    (cleanDisk start log).Consistent := ⟨rfl, rfl, rfl, hwf⟩

theorem reconcile_consistent {d : SegDisk} (h : d.Consistent) : reconcile d = d := by
  rw [reconcile_of_prefix (k := d.log.length) (junk := []) (Nat.le_refl _) (by simpa using h.1) (by simp)]
  exact h.eq_cleanDisk.symm

/-- torn tails play no role in recovery (files are modelled at batch granularity: a reader sees exactly
the complete records of a torn file) -/
theorem reconcile_logTorn (d : SegDisk) (t : Bool) : reconcile { d with logTorn := t } = reconcile d := rfl

theorem reconcile_idxTorn (d : SegDisk) (t : Bool) : reconcile { d with idxTorn := t } = reconcile d := rfl

/-- the batch `Seg.persist` appends to the log (meaningful when the buffer is non-empty) -/
def persistBatch (s : Seg) : Batch := (s.acc.getD (Acc.new 0)).pBatch

def persistIdx (s : Seg) : Idx := s.pIdx (s.acc.getD (Acc.new 0))

/-- the disk state once both appends of `Seg.persist` are complete -/
def Seg.diskAfter (s : Seg) : SegDisk :=
  { s.disk with log := s.log ++ [persistBatch s], idx := s.idxFile ++ [persistIdx s] }

section persistFiles
variable {cfg : Cfg} {s : Seg}

theorem persistBatch_msgs (s : Seg) : (persistBatch s).msgs = s.accMsgs := by
  unfold persistBatch Seg.accMsgs Acc.pBatch
  cases s.acc <;> rfl

theorem Seg.persist_files (hne : s.accMsgs ≠ []) :
    (s.persist cfg).1.log = s.log ++ [persistBatch s] ∧
      (s.persist cfg).1.idxFile = s.idxFile ++ [persistIdx s] := by
  obtain ⟨a, ha, hne', -⟩ := Seg.acc_of_accMsgs_ne_nil hne
  rw [Seg.persist_some ha hne']
  unfold persistBatch persistIdx
  rw [ha]
  split <;> exact ⟨rfl, rfl⟩

theorem Seg.persist_disk (hne : s.accMsgs ≠ []) : (s.persist cfg).1.disk = s.diskAfter := by
  obtain ⟨h1, h2⟩ := Seg.persist_files (cfg := cfg) hne
  simp only [Seg.disk, Seg.diskAfter, h1, h2, Seg.persist_start]

theorem Seg.disk_consistent (h : s.Inv cfg) : s.disk.Consistent := ⟨h.idxFile, rfl, rfl, h.batches⟩

theorem Seg.diskAfter_consistent (h : s.Inv cfg) (hne : s.accMsgs ≠ []) : s.diskAfter.Consistent := by
  rw [← Seg.persist_disk (cfg := cfg) hne]
  exact Seg.disk_consistent (Seg.persist_inv h)

theorem persistBatch_wf (h : s.Inv cfg) (hne : s.accMsgs ≠ []) : (persistBatch s).WF :=
  (Seg.diskAfter_consistent h hne).2.2.2 _ (by simp [Seg.diskAfter])

end persistFiles

/-! ## reconciling the durable images of an interrupted append -/

section images
variable {d : SegDisk} {b : Batch} {i : Idx} (hd : d.Consistent)
  (hd' : ({ d with log := d.log ++ [b], idx := d.idx ++ [i] } : SegDisk).Consistent)
include hd

include hd'

/-- the log holds the complete new batch, its index record is missing or torn: the batch is indexed -/
theorem reconcile_log_appended (t : Bool) :
    reconcile { d with log := d.log ++ [b], idxTorn := t } =
      { d with log := d.log ++ [b], idx := d.idx ++ [i] } :=
  (reconcile_of_prefix (k := d.log.length) (junk := []) (by simp) (by simp [hd.1]) (by simp)).trans
    hd'.eq_cleanDisk.symm

/-- the index record is complete but its batch never reached the log (no-wait confirmation): the
record points at the end of the log and is dropped -/
theorem reconcile_idx_appended (t : Bool) : reconcile { d with idx := d.idx ++ [i], logTorn := t } = d := by
  have hi : [i] = [{ rel := b.base + b.lastDelta - d.start, pos := 0 + logBytes d.log, ts := b.maxTs }] := by
    have := hd'.1
    rw [mkIdx_snoc, ← hd.1] at this
    exact List.append_cancel_left this
  refine (reconcile_of_prefix (k := d.log.length) (junk := [i]) (by simp) (by simp [hd.1]) ?_).trans
    hd.eq_cleanDisk.symm
  intro e he
  rw [hi, List.mem_singleton] at he
  exact idxValid_beyond (by simp [he])

theorem reconcile_persistImages (c : Confirm) :
    (persistImages c d b i).map reconcile =
      let d' : SegDisk := { d with log := d.log ++ [b], idx := d.idx ++ [i] }
      match c with
      | .wait => [d, d, d', d', d']
      | .noWait => [d, d, d, d, d'] := by
  cases c <;>
    simp only [persistImages, List.map_cons, List.map_nil, reconcile_consistent hd, reconcile_consistent hd',
      reconcile_logTorn, reconcile_idxTorn, reconcile_log_appended hd hd', reconcile_idx_appended hd hd']

theorem reconcile_image_mem {c : Confirm} {x : SegDisk} (hx : x ∈ persistImages c d b i) :
    reconcile x = d ∨ reconcile x = { d with log := d.log ++ [b], idx := d.idx ++ [i] } := by
  have := List.mem_map_of_mem (f := reconcile) hx
  rw [reconcile_persistImages hd hd'] at this
  cases c <;> simpa using this

end images

section persistImages
variable {cfg : Cfg} {s : Seg}

theorem reconcile_log_ahead (h : s.Inv cfg) (hne : s.accMsgs ≠ []) (t : Bool) :
    reconcile { s.disk with log := s.log ++ [persistBatch s], idxTorn := t } = s.diskAfter :=
  reconcile_log_appended (Seg.disk_consistent h) (Seg.diskAfter_consistent h hne) t

theorem reconcile_image_cases (h : s.Inv cfg) (hne : s.accMsgs ≠ []) {c : Confirm} {x : SegDisk}
    (hx : x ∈ persistImages c s.disk (persistBatch s) (persistIdx s)) :
    (x.log = s.log ∧ reconcile x = s.disk) ∨
      (x.log = s.log ++ [persistBatch s] ∧ reconcile x = s.diskAfter) :=
  (reconcile_image_mem (Seg.disk_consistent h) (Seg.diskAfter_consistent h hne) hx).imp
    (fun hr => ⟨congrArg SegDisk.log hr, hr⟩) (fun hr => ⟨congrArg SegDisk.log hr, hr⟩)

end persistImages

/-! ## the recovered segment -/

/-- the end-offset fix-up `Part.load` applies to a last segment that is full (storage.rs l.198-202) -/
def Seg.fixEnd (s : Seg) : Seg := { s with endOff := if s.closed then s.cur else s.endOff }

@[simp] theorem Seg.fixEnd_msgs (s : Seg) : s.fixEnd.msgs = s.msgs := rfl
@[simp] theorem Seg.fixEnd_start (s : Seg) : s.fixEnd.start = s.start := rfl
@[simp] theorem Seg.fixEnd_cur (s : Seg) : s.fixEnd.cur = s.cur := rfl
@[simp] theorem Seg.fixEnd_closed (s : Seg) : s.fixEnd.closed = s.closed := rfl
@[simp] theorem Seg.fixEnd_log (s : Seg) : s.fixEnd.log = s.log := rfl
@[simp] theorem Seg.fixEnd_idxFile (s : Seg) : s.fixEnd.idxFile = s.idxFile := rfl
@[simp] theorem Seg.fixEnd_accMsgs (s : Seg) : s.fixEnd.accMsgs = s.accMsgs := rfl
theorem Seg.fixEnd_of_open {s : Seg} (h : s.closed = false) : s.fixEnd = s := by
  cases s
  simp_all [Seg.fixEnd]

/-- the last segment of a partition after a restart on the disk state `d`: `recoverSeg` followed by the
end-offset fix-up of `Part.load` -/
def recoverLast (cfg : Cfg) (now : Nat) (d : SegDisk) : Seg := (recoverSeg cfg now d).fixEnd

section recover
variable {cfg : Cfg} {now : Nat}

theorem recoverSeg_eq (d : SegDisk) :
    recoverSeg cfg now d = Seg.load cfg d.start now d.log (reconcile d).idx := rfl

@[simp] theorem recoverSeg_msgs (d : SegDisk) : (recoverSeg cfg now d).msgs = batchesMsgs d.log := by
  rw [recoverSeg_eq, Seg.load_msgs]

@[simp] theorem recoverLast_msgs (d : SegDisk) : (recoverLast cfg now d).msgs = batchesMsgs d.log := by
  simp [recoverLast]

@[simp] theorem recoverLast_start (d : SegDisk) : (recoverLast cfg now d).start = d.start := rfl
@[simp] theorem recoverLast_log (d : SegDisk) : (recoverLast cfg now d).log = d.log := rfl
@[simp] theorem recoverLast_idxFile (d : SegDisk) : (recoverLast cfg now d).idxFile = (reconcile d).idx := rfl
@[simp] theorem recoverLast_accMsgs (d : SegDisk) : (recoverLast cfg now d).accMsgs = [] := by
  simp [recoverLast, recoverSeg_eq]

theorem recoverLast_closed (d : SegDisk) :
    (recoverLast cfg now d).closed = decide (cfg.segSize ≤ logBytes d.log) := rfl

theorem recoverLast_of_open {d : SegDisk} (h : logBytes d.log < cfg.segSize) :
    recoverLast cfg now d = recoverSeg cfg now d := by
  apply Seg.fixEnd_of_open
  rw [recoverSeg_eq, Seg.load_closed]
  simp; omega

theorem recoverLast_inv {d : SegDisk} (hcons : (reconcile d).Consistent)
    (hc : consecutiveFrom d.start (batchesMsgs d.log))
    (hnow : ∀ m ∈ batchesMsgs d.log, m.ts ≤ now) : (recoverLast cfg now d).Inv cfg := by
  unfold recoverLast
  rw [recoverSeg_eq, show (reconcile d).idx = mkIdx d.start 0 d.log from hcons.1]
  exact Seg.load_inv hcons.2.2.2 hc hnow (fun hsz => if_pos (decide_eq_true hsz))

theorem recoverLast_inv_of_prefix {s : Seg} {d : SegDisk} (h : s.Inv cfg) (hds : d.start = s.start)
    (hcons : (reconcile d).Consistent) (hpre : batchesMsgs d.log <+: s.msgs)
    (hnow : ∀ m ∈ s.msgs, m.ts ≤ now) : (recoverLast cfg now d).Inv cfg := by
  refine recoverLast_inv hcons ?_ (fun m hm => hnow m (hpre.subset hm))
  obtain ⟨rest, hrest⟩ := hpre
  rw [hds]
  exact (consecutiveFrom_append_iff.1 (hrest ▸ h.offsets)).1

end recover

/-! ## a crash while the buffer of segment `s` is being persisted -/

theorem batchesMsgs_after (s : Seg) : batchesMsgs (s.log ++ [persistBatch s]) = s.msgs := by
  simp [persistBatch_msgs, Seg.msgs_def]

section crash
variable {cfg : Cfg} {s : Seg} {now : Nat} {c : Confirm} {x : SegDisk} (h : s.Inv cfg) (hne : s.accMsgs ≠ [])
  (hx : x ∈ persistImages c s.disk (persistBatch s) (persistIdx s))
include h hne hx

theorem image_start : x.start = s.start := by
  rcases reconcile_image_cases h hne hx with ⟨-, hr⟩ | ⟨-, hr⟩
  · exact congrArg SegDisk.start hr
  · exact congrArg SegDisk.start hr

/-- what the recovered segment holds: everything stored before the operation, plus the whole buffer iff
the image's log holds the complete new batch -/
theorem image_msgs :
    (x.log = s.log ∧ batchesMsgs x.log = batchesMsgs s.log) ∨
      (x.log = s.log ++ [persistBatch s] ∧ batchesMsgs x.log = s.msgs) := by
  rcases reconcile_image_cases h hne hx with ⟨hl, -⟩ | ⟨hl, -⟩
  · exact Or.inl ⟨hl, by rw [hl]⟩
  · exact Or.inr ⟨hl, by rw [hl, batchesMsgs_after]⟩

theorem image_reconcile_consistent : (reconcile x).Consistent := by
  rcases reconcile_image_cases h hne hx with ⟨-, hr⟩ | ⟨-, hr⟩ <;> rw [hr]
  · exact Seg.disk_consistent h
  · exact Seg.diskAfter_consistent h hne

theorem image_msgs_prefix : batchesMsgs x.log <+: s.msgs ∧ batchesMsgs s.log <+: batchesMsgs x.log := by
  rcases image_msgs h hne hx with ⟨-, hm⟩ | ⟨-, hm⟩
  · rw [hm]; exact ⟨List.prefix_append _ _, List.prefix_refl _⟩
  · rw [hm]; exact ⟨List.prefix_refl _, List.prefix_append _ _⟩

end crash

theorem diskAfter_mem (s : Seg) (c : Confirm) :
    s.diskAfter ∈ persistImages c s.disk (persistBatch s) (persistIdx s) := by
  cases c <;> simp only [persistImages, List.mem_cons] <;>
    exact Or.inr (Or.inr (Or.inr (Or.inr (Or.inl rfl))))

theorem Seg.Inv.last_off {cfg : Cfg} {r : Seg} (hi : r.Inv cfg) {m : Msg} (hm : r.msgs.getLast? = some m) :
    m.off = r.cur ∧ m.off + 1 = r.start + r.msgs.length := by
  have h1 := hi.offsets.getLast hm
  have h2 := hi.cur
  have h3 := List.length_pos_of_mem (List.mem_of_getLast? hm)
  exact ⟨by omega, h1⟩

/-! ## lifting to a partition whose last segment is being persisted -/

def SegDisk.files (d : SegDisk) : SegFiles := { start := d.start, log := d.log, idxFile := d.idx }

/-- what is on disk for the partition: the earlier segments are clean, the last one is in state `x` -/
def Part.crashDisks (p : Part) (x : SegDisk) : List SegDisk := p.segs.dropLast.map Seg.disk ++ [x]

/-- restart on these files: every segment is reconciled, then the partition is loaded. `co`, `go`: the
consumer offsets found on disk; `cl`: how many messages the warm-up puts into the cache -/
def Part.recover (cfg : Cfg) (p : Part) (now : Nat) (x : SegDisk) (co go : List (Nat × Nat)) (cl : Nat) :
    Part :=
  Part.load cfg p.expiry now ((p.crashDisks x).map (fun d => (reconcile d).files)) co go cl

section partCrash
variable {cfg : Cfg} {p : Part} {init : List Seg} {s : Seg} {now : Nat} {c : Confirm} {x : SegDisk}
  {co go : List (Nat × Nat)}

/-- the files the restart reads are those of the clean segments `init ++ [recoverLast x]`, to which
`Part.load_of_clean` applies -/
theorem Part.recover_spec_of_clean (hp : p.Inv cfg) (hs : p.segs = init ++ [s]) (hxs : x.start = s.start)
    (hcons : (reconcile x).Consistent) (hpre : batchesMsgs x.log <+: s.msgs)
    (hnow : ∀ m ∈ p.msgs, m.ts ≤ now) (hco : OffsBelow co (s.start + (batchesMsgs x.log).length))
    (hgo : OffsBelow go (s.start + (batchesMsgs x.log).length)) (cl : Nat) :
    (p.recover cfg now x co go cl).Inv cfg ∧
      (p.recover cfg now x co go cl).msgs = segsMsgs init ++ batchesMsgs x.log ∧
      (p.recover cfg now x co go cl).next = s.start + (batchesMsgs x.log).length := by
  obtain ⟨hinit, hsi⟩ := hp.segs_snoc hs
  have hmsgs : segsMsgs (init ++ [recoverLast cfg now x]) = segsMsgs init ++ batchesMsgs x.log := by simp
  have hprefix : segsMsgs (init ++ [recoverLast cfg now x]) <+: p.msgs := by
    rw [hmsgs, Part.msgs_of_snoc hs]
    exact (List.prefix_append_right_inj _).2 hpre
  have ht : (recoverLast cfg now x).Inv cfg :=
    recoverLast_inv_of_prefix hsi hxs hcons hpre (fun m hm => hnow m (by rw [Part.msgs_of_snoc hs]; exact List.mem_append_right _ hm))
  have hfiles : (p.crashDisks x).map (fun d => (reconcile d).files) =
      segFiles (init ++ [recoverLast cfg now x]) := by
    unfold Part.crashDisks segFiles
    rw [hs, List.dropLast_concat]
    simp only [List.map_append, List.map_map, List.map_cons, List.map_nil]
    congr 1
    apply List.map_congr_left
    intro u hu
    simp only [Function.comp_apply, reconcile_consistent (Seg.disk_consistent (hinit u hu))]
    rfl
  have hchain := hp.chain
  rw [hs, chain_snoc] at hchain
  rw [← hmsgs]
  refine Part.load_of_clean (l := init ++ [recoverLast cfg now x]) hp.segSize ?_
    (forall_mem_snoc.2 ⟨hinit, ht⟩)
    (forall_mem_snoc.2 ⟨fun u hu => (hinit u hu).accMsgs_nil_of_closed ((hp.last_facts hs).1 u hu),
      recoverLast_accMsgs x⟩)
    (fun m hm => hp.sizes m (hprefix.subset hm)) (hp.ts.sublist hprefix.sublist)
    (fun m hm => hnow m (hprefix.subset hm))
    (fun hon => (hprefix.sublist.map _).nodup (hp.ids_nodup hon)) hco hgo (by rw [← hfiles]; rfl)
  rw [chain_snoc, recoverLast_start, recoverLast_msgs, hxs]
  exact ⟨hchain.1, rfl⟩

theorem Part.recover_spec (hp : p.Inv cfg) (hs : p.segs = init ++ [s]) (hne : s.accMsgs ≠ [])
    (hx : x ∈ persistImages c s.disk (persistBatch s) (persistIdx s))
    (hnow : ∀ m ∈ p.msgs, m.ts ≤ now)
    (hco : ∀ e ∈ co, e.2 < s.start + (batchesMsgs x.log).length ∨
      (e.2 = 0 ∧ s.start + (batchesMsgs x.log).length = 0))
    (hgo : ∀ e ∈ go, e.2 < s.start + (batchesMsgs x.log).length ∨
      (e.2 = 0 ∧ s.start + (batchesMsgs x.log).length = 0)) (cl : Nat) :
    (p.recover cfg now x co go cl).Inv cfg ∧
      (p.recover cfg now x co go cl).msgs = segsMsgs init ++ batchesMsgs x.log ∧
      (p.recover cfg now x co go cl).next = s.start + (batchesMsgs x.log).length := by
  have hsi := (hp.segs_snoc hs).2
  exact Part.recover_spec_of_clean hp hs (image_start hsi hne hx) (image_reconcile_consistent hsi hne hx)
    (image_msgs_prefix hsi hne hx).1 hnow hco hgo cl

end partCrash

end Iggy.Log

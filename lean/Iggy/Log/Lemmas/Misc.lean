/-
Refinement of the "small" partition operations: purge, consumer offsets, cache eviction.
-/
import Iggy.Log.Lemmas.Persist
namespace Iggy.Log

theorem purge_refines {cfg : Cfg} {p : Part} (h : p.Inv cfg) (now : Nat) :
    (p.purge cfg now).Inv cfg ∧ abs (p.purge cfg now) = (abs p).purge := by
  -- every segment is deleted
  have hcnt := h.foldl_subSeg (post := []) (List.append_nil _).symm
  refine ⟨Part.inv_of_empty (now := now) h.segSize rfl ?_ ?_ h.dedupCfg ?_ ?_ ?_, rfl⟩
  · intro c hc
    obtain ⟨_, -, rfl⟩ := Option.map_eq_some_iff.1 (show p.cache.map (fun _ => []) = some c from hc)
    rfl
  · exact Option.isSome_map.trans h.cacheCfg
  · exact congrArg Counters.msgs hcnt
  · exact congrArg Counters.size hcnt
  · exact congrArg (·.segs + 1) hcnt

theorem getOffset_refines (p : Part) (grp : Bool) (cid : Nat) :
    p.getOffset grp cid = (abs p).getOffset grp cid := rfl

theorem storeOffset_refines {cfg : Cfg} {p : Part} (h : p.Inv cfg) (grp : Bool) (cid off : Nat) :
    (p.storeOffset grp cid off).map abs = (abs p).storeOffset grp cid off ∧
      ∀ p', p.storeOffset grp cid off = .ok p' → p'.Inv cfg := by
  have hcur := h.cur_eq
  unfold Part.storeOffset SPart.storeOffset
  rw [show (abs p).cur = p.cur from hcur.symm]
  by_cases hlt : p.cur < off
  · simp only [hlt, ↓reduceIte]
    exact ⟨rfl, fun p' hp => by cases hp⟩
  · simp only [hlt, ↓reduceIte]
    have hoff : off < p.next ∨ (off = 0 ∧ p.next = 0) := by omega
    cases grp
    · exact ⟨rfl, fun p' hp => by
        obtain rfl := Except.ok.inj hp
        exact { h with offsBound := ⟨OffsBelow.insertKV h.offsBound.1 hoff, h.offsBound.2⟩ }⟩
    · exact ⟨rfl, fun p' hp => by
        obtain rfl := Except.ok.inj hp
        exact { h with offsBound := ⟨h.offsBound.1, OffsBelow.insertKV h.offsBound.2 hoff⟩ }⟩

theorem deleteOffset_refines {cfg : Cfg} {p : Part} (h : p.Inv cfg) (grp : Bool) (cid : Nat) :
    (p.deleteOffset grp cid).map abs = (abs p).deleteOffset grp cid ∧
      ∀ p', p.deleteOffset grp cid = .ok p' → p'.Inv cfg := by
  unfold Part.deleteOffset SPart.deleteOffset
  rw [← getOffset_refines]
  cases hg : p.getOffset grp cid with
  | none => exact ⟨rfl, fun p' hp => by cases hp⟩
  | some o =>
    cases grp
    · exact ⟨rfl, fun p' hp => by
        obtain rfl := Except.ok.inj hp
        exact { h with offsBound := ⟨OffsBelow.eraseK h.offsBound.1 cid, h.offsBound.2⟩ }⟩
    · exact ⟨rfl, fun p' hp => by
        obtain rfl := Except.ok.inj hp
        exact { h with offsBound := ⟨h.offsBound.1, OffsBelow.eraseK h.offsBound.2 cid⟩ }⟩

theorem evict_refines {cfg : Cfg} {p : Part} (h : p.Inv cfg) (keep : Nat) :
    (p.evict keep).Inv cfg ∧ abs (p.evict keep) = abs p := by
  refine ⟨{ h with cache := ?_, cacheCfg := ?_ }, rfl⟩
  · intro c' hc'
    obtain ⟨c, hp, rfl⟩ := Option.map_eq_some_iff.1
      (show p.cache.map (fun c => c.drop (c.length - keep)) = some c' from hc')
    exact cache_drop (h.cache c hp) _
  · exact Option.isSome_map.trans h.cacheCfg

end Iggy.Log

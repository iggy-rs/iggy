/-
C19 — with encryption on, nothing sensitive is stored in clear and reads are lossless.
Theorems are for EVERY cipher satisfying the two `Aead` laws (assumptions about AES-256-GCM), every
key, nonce sequence and payload list.  That real files contain no plaintext is established by the byte
search of the correspondence run (a test over the generated inputs); the placement theorems give the
reason it holds for all inputs of the model: the only bytes derived from a payload or a journalled
command that reach a file are `enc key nonce x`.
-/
import Iggy.Crypto.Model
namespace Iggy.Props.C19
open Iggy.Crypto

variable (A : Aead)

theorem sealAll_eq (k : A.Key) (ns : List A.Nonce) (ps : List Bytes) :
    sealAll A k ns ps = (ns.zip ps).map fun x => A.enc k x.1 x.2 := by
  induction ns generalizing ps with
  | nil => rfl
  | cons n ns ih =>
    cases ps with
    | nil => rfl
    | cons p ps => simp [sealAll, ih]

theorem openAll_enc (k : A.Key) (l : List (A.Nonce × Bytes)) :
    openAll A k (l.map fun x => A.enc k x.1 x.2) = some (l.map (·.2)) := by
  induction l with
  | nil => rfl
  | cons x l ih => simp [openAll, A.dec_enc, ih]

/-- every poll returns exactly the payloads that were sent (same key; any nonces) -/
theorem poll_returns_sent (k : A.Key) (ns : List A.Nonce) (ps : List Bytes) (h : ps.length ≤ ns.length) :
    openAll A k (sealAll A k ns ps) = some ps := by
  rw [sealAll_eq, openAll_enc, List.map_snd_zip h]

/-- placement: what is stored for a message is `enc key nonce payload` for one of the sent payloads —
no code path stores the payload itself -/
theorem files_hold_ciphertext (k : A.Key) (ns : List A.Nonce) (ps : List Bytes) :
    ∀ c ∈ sealAll A k ns ps, ∃ n p, p ∈ ps ∧ c = A.enc k n p := by
  intro c hc
  rw [sealAll_eq] at hc
  obtain ⟨⟨n, p⟩, hm, rfl⟩ := List.mem_map.1 hc
  exact ⟨n, p, (List.of_mem_zip hm).2, rfl⟩

/-- one stored ciphertext per sent message (sizes and counts are accounted on the ciphertext) -/
theorem seal_length (k : A.Key) (ns : List A.Nonce) (ps : List Bytes) (h : ps.length ≤ ns.length) :
    (sealAll A k ns ps).length = ps.length := by
  rw [sealAll_eq, List.length_map, List.length_zip]; omega

/-- data written under one key is never returned as valid content under another key: the poll fails as
a whole (cannot_decrypt_data), nothing is delivered -/
theorem other_key_never_valid (k k' : A.Key) (hk : k ≠ k') (ns : List A.Nonce) (ps : List Bytes)
    (h : ps.length ≤ ns.length) (hne : ps ≠ []) : openAll A k' (sealAll A k ns ps) = none := by
  cases ps with
  | nil => exact absurd rfl hne
  | cons p ps =>
    cases ns with
    | nil => simp at h
    | cons n ns => simp only [sealAll, openAll, A.key_sep k k' n p hk]

/-- an undecryptable record anywhere in the range makes the poll an error rather than a delivery -/
theorem undecryptable_is_error (k : A.Key) (pre post : List Bytes) (c : Bytes) (hc : A.dec k c = none) :
    openAll A k (pre ++ c :: post) = none := by
  induction pre with
  | nil => simp [openAll, hc]
  | cons x xs ih =>
    simp only [List.cons_append, openAll, ih]
    cases A.dec k x <;> rfl

/-- the journal: a command body is stored encrypted, and loading with the same key restores it (the
checksum, computed over the clear form, verifies) -/
theorem journal_roundtrip (ck : Bytes → Nat) (k : A.Key) (n : A.Nonce) (clear : Bytes) :
    openEntry A ck k (sealEntry A ck k n clear) = some clear ∧
    ∃ n', (sealEntry A ck k n clear).body = A.enc k n' clear := by
  refine ⟨?_, n, rfl⟩
  simp [openEntry, sealEntry, A.dec_enc]

/-- loading the journal with another key is an error — never a different command -/
theorem journal_other_key (ck : Bytes → Nat) (k k' : A.Key) (hk : k ≠ k') (n : A.Nonce) (clear : Bytes) :
    openEntry A ck k' (sealEntry A ck k n clear) = none := by
  simp [openEntry, sealEntry, A.key_sep k k' n clear hk]

/-! non-vacuity: a toy cipher satisfying both laws (key byte prepended, payload shifted by the key) -/
@[reducible] def toy : Aead where
  Key := UInt8
  Nonce := Unit
  enc k _ p := k :: p.map (· + k)
  dec k c := match c with
    | [] => none
    | t :: rest => if t = k then some (rest.map (· - k)) else none
  dec_enc := by
    intro k n p
    simp only [if_true, List.map_map]
    congr 1
    have : ((fun x : UInt8 => x - k) ∘ fun x => x + k) = id := by funext x; simp
    rw [this, List.map_id]
  key_sep := by
    intro k k' n p hk
    simp only
    rw [if_neg hk]

example : openAll toy (3 : UInt8) (sealAll toy (3 : UInt8) [(), ()] [[1, 2], [9]]) = some [[1, 2], [9]] := by decide
example : openAll toy (4 : UInt8) (sealAll toy (3 : UInt8) [(), ()] [[1, 2], [9]]) = none := by decide

end Iggy.Props.C19

import Iggy.Props.C11
#print axioms Iggy.Props.C11.leBytes_length
#print axioms Iggy.Props.C11.leVal_leBytes
#print axioms Iggy.Props.C11.leVal_le32
#print axioms Iggy.Props.C11.leVal_le64
#print axioms Iggy.Props.C11.parseOne_encode
#print axioms Iggy.Props.C11.parseOne_sound
#print axioms Iggy.Props.C11.load_roundtrip
#print axioms Iggy.Props.C11.load_err_or_ok
#print axioms Iggy.Props.C11.load_sound
#print axioms Iggy.Props.C11.load_ok_iff
#print axioms Iggy.Props.C11.encodeAll_injective
#print axioms Iggy.Props.C11.applies_wellformed
#print axioms Iggy.Props.C11.applies_loadable
#print axioms Iggy.Props.C11.applies_wfjournal
#print axioms Iggy.Props.C11.applies_loadable_from
#print axioms Iggy.Props.C11.failed_apply_no_change
#print axioms Iggy.Props.C11.load_prefix
#print axioms Iggy.Props.C11.cut_inside_entry_reported
#print axioms Iggy.Props.C11.cut_at_boundary_is_prefix
#print axioms Iggy.Props.C11.whole_entry_tamper
#print axioms Iggy.Props.C11.whole_entry_tamper_reported
#print axioms Iggy.Props.C11.entry_determined_by_index
#print axioms Iggy.Props.C11.verdict_prefix
#print axioms Iggy.Props.C11.entry_byte_change_detected
#print axioms Iggy.Props.C11.byte_tamper_partial
#print axioms Iggy.Props.C11.position_in_entry
#print axioms Iggy.Props.C11.length_field_tamper_counterexample
#print axioms Iggy.Props.C11.Ex.wf
#print axioms Iggy.Props.C11.Ex.reported

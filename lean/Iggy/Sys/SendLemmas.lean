/-
`Topic.send` (Iggy/Sys/Model.lean) as gate, routing, append: the three routing modes are folded into
`Topic.route`, so that proofs about `send` need no case split on the partitioning.
-/
import Iggy.Sys.Model
namespace Iggy.Sys
open Iggy.Log

/-- where a send is routed: the chosen partition id, and the topic with the rotation cursor advanced
(balanced sends only) -/
def Topic.route (t : Topic) : Partitioning → Nat × Topic
  | .balanced => t.nextPartition
  | .pid n => (n, t)
  | .key h => (byKey h t.parts.length, t)

theorem Topic.route_snd (t : Topic) (part : Partitioning) :
    (t.route part).2 = { t with cursor := (t.route part).2.cursor } := by cases part <;> rfl

theorem Topic.send_eq (t : Topic) (cfg : Cfg) (sc : SCfg) (sid now : Nat) (part : Partitioning)
    (msgs : List InMsg) :
    t.send cfg sc sid now part msgs =
      if t.parts.isEmpty then (t, .err "no_partitions", []) else
      if t.isFull && !sc.deleteOldest then (t, .err "topic_full", []) else
      if msgs.isEmpty then (t, .ok, []) else
      match find? t.parts (t.route part).1 with
      | none => ((t.route part).2, .err "partition_not_found", [])
      | some p =>
        match p.append cfg now msgs with
        | .error e => ((t.route part).2, .err (errOf e), [])
        | .ok p' => ((t.route part).2.putPart (t.route part).1 p', .ok,
            [.appended (sid, t.id, (t.route part).1) now msgs]) := by
  unfold Topic.send; cases part <;> rfl

theorem Topic.send_cases (t : Topic) (cfg : Cfg) (sc : SCfg) (sid now : Nat) (part : Partitioning) (msgs : List InMsg) :
    (∃ cur out, t.send cfg sc sid now part msgs = ({ t with cursor := cur }, out, [])) ∨
    (∃ cur pid p p', find? t.parts pid = some p ∧ p.append cfg now msgs = .ok p' ∧ (∀ k, part = .pid k → pid = k) ∧
      t.send cfg sc sid now part msgs =
        ({ t with cursor := cur, parts := insertAsc t.parts pid p' }, .ok, [.appended (sid, t.id, pid) now msgs])) := by
  generalize hx : t.send cfg sc sid now part msgs = x
  rw [Topic.send_eq, t.route_snd part] at hx
  repeat' split at hx
  all_goals subst hx
  all_goals first
    | exact .inl ⟨_, _, rfl⟩
    | exact .inr ⟨_, _, _, _, ‹_›, ‹_›, fun k hk => by subst hk; rfl, rfl⟩

end Iggy.Sys

/-
Lemmas about polls under no-wait confirmation (definitions: Iggy/Log/NoWait.lean).
Proof device: `run s l` = the longest prefix of `l` whose offsets are `s, s+1, …`; the fixed read paths
compute `run` of what the tiers show, and `run` of a sub-sequence of a gap-free list is a prefix of it.
-/
import Iggy.Log.NoWait
import Iggy.Log.SpecProps
namespace Iggy.Log.NoWait
open Iggy.Log

def run : Nat → List Msg → List Msg
  | _, [] => []
  | s, x :: r => if x.off = s then x :: run (s + 1) r else []

theorem contigPrefix_cons_eq_run (x : Msg) (r : List Msg) :
    contigPrefix (x :: r) = run x.off (x :: r) := by
  induction r generalizing x with
  | nil => simp [contigPrefix, run]
  | cons z r ih =>
    simp only [contigPrefix]
    by_cases h : z.off = x.off + 1
    · rw [if_pos h, ih z]
      simp [run, h]
    · rw [if_neg h]
      simp [run, h]

theorem head?_contigPrefix (l : List Msg) : (contigPrefix l).head? = l.head? := by
  match l with
  | [] => rfl
  | [a] => rfl
  | a :: b :: r => simp only [contigPrefix]; split <;> rfl

theorem visibleByOffset_eq_run (seen : List Msg) (lo cur start count : Nat) :
    visibleByOffset seen lo cur start count =
      if max start lo > cur then [] else run (max start lo) (rawByOffset seen lo start count) := by
  unfold visibleByOffset
  split
  · rfl
  · simp only
    cases h : rawByOffset seen lo start count with
    | nil => simp [contigPrefix, run]
    | cons f r =>
      simp only [List.head?_cons, Option.any_some, bne_iff_ne, ne_eq]
      by_cases hf : f.off = max start lo
      · rw [if_neg (by simpa using hf), contigPrefix_cons_eq_run, hf]
      · rw [if_pos (by simpa using hf)]
        simp [run, hf]

theorem run_of_consecutive {s : Nat} {l : List Msg} (h : consecutiveFrom s l) : run s l = l := by
  induction l generalizing s with
  | nil => rfl
  | cons x r ih => simp only [run, h.1, if_true, ih h.2]

theorem run_eq_nil_of_lt {s s' : Nat} {r a : List Msg} (hs : r.Sublist a) (hc : consecutiveFrom s' a)
    (h : s < s') : run s r = [] := by
  cases r with
  | nil => rfl
  | cons x r' =>
    have hx : x ∈ a := hs.subset (List.mem_cons_self ..)
    have := (hc.bounds x hx).1
    have hne : x.off ≠ s := by omega
    simp [run, hne]

theorem run_mono {s : Nat} {r₁ r₂ a : List Msg} (h₁ : r₁.Sublist r₂) (h₂ : r₂.Sublist a)
    (hc : consecutiveFrom s a) : run s r₁ <+: run s r₂ := by
  induction a generalizing s r₁ r₂ with
  | nil =>
    have := List.sublist_nil.1 h₂; subst this
    have := List.sublist_nil.1 h₁; subst this
    exact List.prefix_refl _
  | cons y a' ih =>
    rcases List.sublist_cons_iff.1 h₂ with h₂' | ⟨r₂', rfl, h₂'⟩
    · rw [run_eq_nil_of_lt (h₁.trans h₂') hc.2 (Nat.lt_succ_self s)]
      exact List.nil_prefix
    · rcases List.sublist_cons_iff.1 h₁ with h₁' | ⟨r₁', rfl, h₁'⟩
      · rw [run_eq_nil_of_lt (h₁'.trans h₂') hc.2 (Nat.lt_succ_self s)]
        exact List.nil_prefix
      · simp only [run, hc.1, if_true]
        exact (List.cons_prefix_cons).2 ⟨rfl, ih h₁' h₂' hc.2⟩

theorem run_prefix_of_sublist {s : Nat} {r a : List Msg} (hs : r.Sublist a) (hc : consecutiveFrom s a) :
    run s r <+: a := by
  have := run_mono hs (List.Sublist.refl a) hc
  rwa [run_of_consecutive hc] at this

theorem run_take (s n : Nat) (l : List Msg) : run s (l.take n) = (run s l).take n := by
  induction l generalizing s n with
  | nil => simp [run]
  | cons x r ih =>
    cases n with
    | zero => simp [run]
    | succ n =>
      simp only [List.take_succ_cons, run]
      split
      · simp [ih]
      · simp

theorem filter_ge_consecutive {lo s : Nat} {l : List Msg} (h : consecutiveFrom lo l) (hs : lo ≤ s) :
    consecutiveFrom s (l.filter (fun m => s ≤ m.off)) := by
  have := h.drop (s - lo)
  rwa [Nat.add_sub_cancel' hs, ← h.filter_ge] at this

theorem ts_le_of_off_le {lo : Nat} {l : List Msg} (hc : consecutiveFrom lo l) (hts : tsSorted l)
    {a b : Msg} (ha : a ∈ l) (hb : b ∈ l) : a.off ≤ b.off → a.ts ≤ b.ts := by
  refine List.Pairwise.forall_of_forall_of_flip (R := fun x y : Msg => x.off ≤ y.off → x.ts ≤ y.ts)
    (fun _ _ _ => Nat.le_refl _) ?_ ?_ ha hb
  · exact (tsSorted_iff_pairwise.1 hts).imp (S := fun x y : Msg => x.off ≤ y.off → x.ts ≤ y.ts)
      fun h _ => h
  · exact hc.pairwise.imp fun h h' => absurd h' (Nat.not_le.2 h)

theorem exists_off {lo : Nat} {l : List Msg} (hc : consecutiveFrom lo l) {f : Msg} (hf : f ∈ l)
    {k : Nat} (h1 : lo ≤ k) (h2 : k ≤ f.off) : ∃ p ∈ l, p.off = k := by
  have := (hc.bounds f hf).2
  exact List.mem_map.1 (by rw [consecutiveFrom_map_off lo l hc, List.mem_range'_1]; omega)

theorem filter_ts_eq_filter_off {lo : Nat} {acc : List Msg} (hc : consecutiveFrom lo acc)
    (hts : tsSorted acc) {f : Msg} {t : Nat} (hf : f ∈ acc) (hft : t ≤ f.ts)
    (hbefore : ∀ m ∈ acc, m.off < f.off → m.ts < t) :
    acc.filter (fun m => t ≤ m.ts) = acc.filter (fun m => f.off ≤ m.off) := by
  apply List.filter_congr
  intro m hm
  by_cases h : m.off < f.off
  · have := hbefore m hm h
    simp only [decide_eq_decide]
    omega
  · have := ts_le_of_off_le hc hts hf hm (by omega)
    simp only [decide_eq_decide]
    omega

theorem specAnswerByOffset_eq_filter {lo : Nat} {acc : List Msg} (hc : consecutiveFrom lo acc)
    (start count : Nat) :
    specAnswerByOffset acc start count =
      acc.filter (fun m => max start lo ≤ m.off ∧ m.off < max start lo + count) :=
  SPart.pollOffset_eq_filter (p := specPart acc) hc start count

theorem specAnswerByOffset_consecutive {lo : Nat} {acc : List Msg} (hc : consecutiveFrom lo acc)
    (start count : Nat) : consecutiveFrom (max start lo) (specAnswerByOffset acc start count) := by
  rw [specAnswerByOffset, SPart.pollOffset_eq_take (p := specPart acc) hc]
  have := (hc.drop (start - lo)).take count
  rwa [Nat.add_comm, Nat.sub_add_eq_max] at this

end Iggy.Log.NoWait

/- C20 helpers (producer, traces, the consumer's primitives, the invariant, rewinds, progress, the statements) -/
import Iggy.Sdk.Lemmas.Producer
import Iggy.Sdk.Lemmas.Trace
import Iggy.Sdk.Lemmas.Prim
import Iggy.Sdk.Lemmas.Inv
import Iggy.Sdk.Lemmas.Steps
import Iggy.Sdk.Lemmas.Rewind
import Iggy.Sdk.Lemmas.Progress
import Iggy.Sdk.Lemmas.Main

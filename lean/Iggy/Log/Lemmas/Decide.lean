/-
`Seg.Inv` and `Part.Inv` are decidable: concrete instances and non-instances close by `decide` (the example
runs of `Log/Refine.lean`, the counterexamples of `Lemmas/ReadTs.lean` and `Props/C04.lean`).
-/
import Iggy.Log.Abs
namespace Iggy.Log

instance chainDecidable : (l : List Seg) → (n : Nat) → Decidable (chain l n)
  | [], _ => isFalse (fun h => h)
  | [s], n => inferInstanceAs (Decidable (s.start + s.msgs.length = n))
  | s :: t :: rest, n =>
    have := chainDecidable (t :: rest) n
    inferInstanceAs (Decidable (s.start + s.msgs.length = t.start ∧ s.closed = true ∧ chain (t :: rest) n))

def Seg.InvD (cfg : Cfg) (s : Seg) : Prop :=
  (∀ b ∈ s.log, b.WF) ∧ consecutiveFrom s.start s.msgs ∧ s.idxFile = mkIdx s.start 0 s.log ∧
  s.idxCache = (if cfg.idxCacheOn then some s.idxFile else none) ∧ s.lastIdxPos = logBytes s.log ∧
  s.sizeBytes = logBytes s.log + sumSizes s.accMsgs ∧ s.cur = s.start + (s.msgs.length - 1) ∧
  (∀ a, a ∈ s.acc → (a.msgs ≠ [] →
    a.msgs.head?.map (·.off) = some a.base ∧ a.msgs.getLast?.map (·.off) = some a.cur ∧
    a.msgs.getLast?.map (·.ts) = some a.curTs)) ∧
  (∀ m ∈ s.msgs, m.ts ≤ s.endTs) ∧
  (s.closed = true → s.acc = none ∧ s.endOff = s.cur ∧ cfg.segSize ≤ s.sizeBytes) ∧
  (s.closed = false → s.sizeBytes < cfg.segSize ∨ s.accMsgs ≠ [])

instance (cfg : Cfg) (s : Seg) : Decidable (s.InvD cfg) := by unfold Seg.InvD; infer_instance

theorem Seg.inv_iff_invD {cfg : Cfg} {s : Seg} : s.Inv cfg ↔ s.InvD cfg :=
  ⟨fun h => ⟨h.batches, h.offsets, h.idxFile, h.idxCache, h.pos, h.size, h.cur,
      fun a ha => h.accHdr a (Option.mem_def.1 ha), h.endTs, h.closed, h.open_⟩,
   fun ⟨h1, h2, h3, h4, h5, h6, h7, h8, h9, h10, h11⟩ =>
    ⟨h1, h2, h3, h4, h5, h6, h7, fun a ha => h8 a (Option.mem_def.2 ha), h9, h10, h11⟩⟩

instance (cfg : Cfg) (s : Seg) : Decidable (s.Inv cfg) := decidable_of_iff _ Seg.inv_iff_invD.symm

def Part.InvD (cfg : Cfg) (p : Part) : Prop :=
  (∀ s ∈ p.segs, s.Inv cfg) ∧ chain p.segs p.next ∧ (∀ m ∈ p.msgs, 0 < m.size) ∧ tsSorted p.msgs ∧
  (∀ c, c ∈ p.cache →
    (c <:+ p.msgs ∨ p.msgs <:+ c) ∧ consecutiveFrom (p.next - c.length) c ∧ c.length ≤ p.next) ∧
  p.cache.isSome = cfg.cacheOn ∧ p.dedup.isSome = cfg.dedupOn ∧
  (∀ ids, ids ∈ p.dedup → (∀ m ∈ p.msgs, m.id ∈ ids) ∧ (p.msgs.map (·.id)).Nodup) ∧
  p.cnt.msgs = p.msgs.length ∧ p.cnt.size = (p.segs.map (·.sizeBytes)).sum ∧
  p.cnt.segs = p.segs.length ∧
  ((∀ e ∈ p.consOffs, e.2 < p.next ∨ (e.2 = 0 ∧ p.next = 0)) ∧
    (∀ e ∈ p.grpOffs, e.2 < p.next ∨ (e.2 = 0 ∧ p.next = 0))) ∧
  (p.shouldInc = false → p.cur = 0) ∧ 0 < cfg.segSize

instance (cfg : Cfg) (p : Part) : Decidable (p.InvD cfg) := by unfold Part.InvD; infer_instance

theorem Part.inv_iff_invD {cfg : Cfg} {p : Part} : p.Inv cfg ↔ p.InvD cfg :=
  ⟨fun h => ⟨h.segs, h.chain, h.sizes, h.ts, fun c hc => h.cache c (Option.mem_def.1 hc), h.cacheCfg,
      h.dedupCfg, fun i hi => h.dedupIds i (Option.mem_def.1 hi), h.cntMsgs, h.cntSize, h.cntSegs,
      h.offsBound, h.curZero, h.segSize⟩,
   fun ⟨h1, h2, h3, h4, h5, h6, h7, h8, h9, h10, h11, h12, h13, h14⟩ =>
    ⟨h1, h2, h3, h4, fun c hc => h5 c (Option.mem_def.2 hc), h6, h7,
      fun i hi => h8 i (Option.mem_def.2 hi), h9, h10, h11, h12, h13, h14⟩⟩

instance (cfg : Cfg) (p : Part) : Decidable (p.Inv cfg) := decidable_of_iff _ Part.inv_iff_invD.symm

end Iggy.Log

/-
The simp set `codec`: the round trips of the readers the decoders of `Iggy/Codec` are made of, and the
lemmas that bring an encoding into the form `field₁ ++ (field₂ ++ (… ++ rest))`. Declared here because an
attribute cannot be used in the module that declares it; filled in `Iggy/Codec/Lemmas.lean`.
-/
import Lean.Meta.Tactic.Simp.RegisterCommand

/-- reader round trips and encoding normal form, see `Iggy/Codec/Lemmas.lean` -/
register_simp_attr codec

/-
C13 codec model: helper lemmas and the round-trip / length proofs, re-exported as the property theorems
in `Iggy/Props/C13.lean`.

A decoder is a `do` block of readers, each taking its value off the front of the buffer, and the encoding
of a value is the concatenation of the encodings of its fields. So every round trip below has two steps:
bring the encoding (with what follows it) into the form `field₁ ++ (field₂ ++ (… ++ rest))`, then run the
decoder one reader at a time, each step being the round trip of that field followed by `some_bind`. The simp
set `codec` holds what both steps need (`List.append_assoc` as a `↓` lemma: from the outside in, one rewrite
per field; the round trips of the readers, their side conditions being discharged by the validity hypotheses
handed to simp), so that a round trip is one
`simp only [decodeX, ↓guard_pass (its min-length lemma), encodeX, codec, hypotheses]`.
-/
import Iggy.Codec.Frame
import Iggy.Codec.Storage
import Iggy.Codec.Journal
import Iggy.Codec.SimpAttr
namespace Iggy.Codec

/-- One step of a decoder: its first reader has succeeded. It is not stated as a `rfl` lemma on purpose: as a
proof step of its own it keeps the kernel from comparing `some _ >>= f` with the next `reader _ >>= g`
argument by argument, which evaluates the reader on the encoded bytes. -/
@[codec] theorem some_bind {α β : Type} (a : α) (f : α → Option β) : some a >>= f = f a := by
  rw [Option.bind_eq_bind, Option.bind_some]

theorem bind_congr_left {α β : Type} {x y : Option α} (h : x = y) (f : α → Option β) :
    x >>= f = y >>= f := by
  rw [h]

/- In this file `simp` does not enter the continuation of a `>>=`: it works on the reader in front until
`some_bind` removes it. (Walking through the rest of the decoder after every step makes a round trip cubic
in the number of its fields.) -/
attribute [local congr] bind_congr_left

attribute [codec ↓] List.append_assoc
attribute [codec] List.cons_append List.nil_append

theorem leBytes_length (k n : Nat) : (leBytes k n).length = k := by
  induction k generalizing n with
  | zero => rfl
  | succ k ih => simp [leBytes, ih]

@[simp] theorem le16_length (n : Nat) : (le16 n).length = 2 := leBytes_length 2 n
@[simp] theorem le32_length (n : Nat) : (le32 n).length = 4 := leBytes_length 4 n
@[simp] theorem le64_length (n : Nat) : (le64 n).length = 8 := leBytes_length 8 n
@[simp] theorem le128_length (n : Nat) : (le128 n).length = 16 := leBytes_length 16 n
@[simp] theorem u8_length (n : Nat) : (u8 n).length = 1 := rfl

theorem u8_toNat {n : Nat} (h : n < 256) : (UInt8.ofNat n).toNat = n := UInt8.toNat_ofNat_of_lt' h

theorem leVal_leBytes (k n : Nat) : leVal (leBytes k n) = n % 256 ^ k := by
  induction k generalizing n with
  | zero => simp [leBytes, leVal, Nat.mod_one]
  | succ k ih =>
    simp only [leBytes, leVal, ih, u8_toNat (Nat.mod_lt _ (by decide))]
    rw [Nat.pow_succ, Nat.mul_comm (256 ^ k) 256, Nat.mod_mul]

theorem leVal_leBytes_of_lt {k n : Nat} (h : n < 256 ^ k) : leVal (leBytes k n) = n := by
  rw [leVal_leBytes, Nat.mod_eq_of_lt h]

theorem takeN_append_of_length {n : Nat} (a rest : Bytes) (h : a.length = n) :
    takeN n (a ++ rest) = some (a, rest) := by
  subst h; simp [takeN]

@[simp] theorem takeN_append (a rest : Bytes) : takeN a.length (a ++ rest) = some (a, rest) :=
  takeN_append_of_length a rest rfl

theorem takeN_self (a : Bytes) : takeN a.length a = some (a, []) := by
  simpa using takeN_append a []

theorem readLE_append {k n : Nat} (rest : Bytes) (h : n < 256 ^ k) :
    readLE k (leBytes k n ++ rest) = some (n, rest) := by
  simp only [readLE, takeN_append_of_length _ _ (leBytes_length k n), leVal_leBytes_of_lt h]

theorem readLE4 {n : Nat} (rest : Bytes) (h : n < 2 ^ 32) :
    readLE 4 (le32 n ++ rest) = some (n, rest) := readLE_append rest h
theorem readLE8 {n : Nat} (rest : Bytes) (h : n < 2 ^ 64) :
    readLE 8 (le64 n ++ rest) = some (n, rest) := readLE_append rest h
theorem readLE16 {n : Nat} (rest : Bytes) (h : n < 2 ^ 128) :
    readLE 16 (le128 n ++ rest) = some (n, rest) := readLE_append rest h

@[simp] theorem readU8_cons (b : UInt8) (r : Bytes) : readU8 (b :: r) = some (b.toNat, r) := rfl

theorem readU8_u8 {n : Nat} (rest : Bytes) (h : n < 256) : readU8 (u8 n ++ rest) = some (n, rest) := by
  simp [u8, u8_toNat h]

attribute [codec] readLE4 readLE8 readLE16 readU8_cons takeN_append

@[simp, codec] theorem boolByte_toNat_beq_one (b : Bool) : ((boolByte b).toNat == 1) = b := by
  cases b <;> rfl

theorem guard_ok {enc rest : Bytes} {n : Nat} (h : n ≤ enc.length) : ¬ (enc ++ rest).length < n := by
  rw [List.length_append]; omega

theorem guard_pass {α : Type} {enc rest : Bytes} {n : Nat} (h : n ≤ enc.length) (y : Option α) :
    (if (enc ++ rest).length < n then none else y) = y := if_neg (guard_ok h)

theorem of_append_nil {α : Type} {d : Bytes → α} {bs : Bytes} {x : α} (h : d (bs ++ []) = x) :
    d bs = x := by
  rwa [List.append_nil] at h

@[codec] theorem consumerKind_roundtrip (k : ConsumerKind) : ConsumerKind.ofCode k.code.toNat = some k := by
  cases k <;> rfl

@[codec] theorem partKind_roundtrip (k : PartKind) : PartKind.ofCode k.code.toNat = some k := by
  cases k <;> rfl

@[codec] theorem pollingKind_roundtrip (k : PollingKind) : PollingKind.ofCode k.code.toNat = some k := by
  cases k <;> rfl

@[codec] theorem compression_roundtrip (c : Compression) : Compression.ofCode c.code.toNat = some c := by
  cases c <;> rfl

@[codec] theorem headerKind_roundtrip (k : HeaderKind) : HeaderKind.ofCode k.code.toNat = some k := by
  cases k <;> rfl

@[codec] theorem userStatus_roundtrip (s : UserStatus) : UserStatus.ofCode s.code.toNat = some s := by
  cases s <;> rfl

@[codec] theorem messageState_roundtrip (s : MessageState) : MessageState.ofCode s.code.toNat = some s := by
  cases s <;> rfl

@[simp] theorem encodeStr8_length (s : Bytes) : (encodeStr8 s).length = 1 + s.length := by
  simp [encodeStr8]

theorem str8_roundtrip (s rest : Bytes) (hl : s.length < 256) (hu : validUtf8 s = true) :
    decodeStr8 (encodeStr8 s ++ rest) = some (s, rest) := by
  simp [decodeStr8, encodeStr8, u8, u8_toNat hl, hu]

theorem str8_roundtrip_name {min max : Nat} (s rest : Bytes) (h : NameOk min max s)
    (hm : max ≤ 255 := by decide) :
    decodeStr8 (encodeStr8 s ++ rest) = some (s, rest) :=
  str8_roundtrip s rest (Nat.lt_succ_of_le (Nat.le_trans h.2.1 hm)) h.2.2

theorem encodeIdentifier_length (i : Identifier) :
    (encodeIdentifier i).length = match i with | .numeric _ => 6 | .named s => 2 + s.length := by
  cases i <;> simp [encodeIdentifier] <;> omega

theorem identifier_min_length (i : Identifier) (h : i.Valid) :
    IDENTIFIER_MIN_LEN ≤ (encodeIdentifier i).length := by
  rw [encodeIdentifier_length]
  cases i with
  | numeric n => exact Nat.le_add_left 3 3
  | named s => exact Nat.add_le_add_left h.1 2

@[codec] theorem identifier_roundtrip (i : Identifier) (rest : Bytes) (h : i.Valid) :
    decodeIdentifier (encodeIdentifier i ++ rest) = some (i, rest) := by
  have hl := identifier_min_length i h
  cases i with
  | numeric n =>
    have e1 : IdKind.ofCode (1 : UInt8).toNat = some .numeric := rfl
    have e2 : takeN (4 : UInt8).toNat (le32 n ++ rest) = some (le32 n, rest) :=
      takeN_append_of_length _ _ (le32_length n)
    simp only [decodeIdentifier, ↓guard_pass hl, encodeIdentifier, codec, e1, e2]
    rw [show leVal (le32 n) = n from leVal_leBytes_of_lt (k := 4) h]
    rfl
  | named s =>
    have e1 : IdKind.ofCode (2 : UInt8).toNat = some .string := rfl
    simp only [decodeIdentifier, ↓guard_pass hl, encodeIdentifier, codec, e1,
      readU8_u8 _ (Nat.lt_succ_of_le h.2), if_neg (Nat.ne_of_gt h.1)]

@[codec] theorem consumerBody_roundtrip (c : Consumer) (rest : Bytes) (h : c.Valid) :
    decodeConsumerBody (encodeConsumer c ++ rest) = some (c, rest) := by
  simp only [decodeConsumerBody, encodeConsumer, codec, identifier_roundtrip _ _ h]

theorem consumer_min_length (c : Consumer) (h : c.Valid) :
    CONSUMER_MIN_LEN ≤ (encodeConsumer c).length := by
  have : 3 ≤ _ := identifier_min_length c.id h
  simp only [encodeConsumer, CONSUMER_MIN_LEN, List.length_append, List.length_singleton]
  omega

theorem consumer_roundtrip (c : Consumer) (rest : Bytes) (h : c.Valid) :
    decodeConsumer (encodeConsumer c ++ rest) = some (c, rest) := by
  rw [decodeConsumer, guard_pass (consumer_min_length c h), consumerBody_roundtrip c rest h]

theorem partitioning_length (p : Partitioning) : (encodePartitioning p).length = 2 + p.value.length := by
  simp [encodePartitioning]; omega

/-- `Partitioning::from_bytes` refuses a buffer of fewer than 3 bytes, and the balanced partitioning is 2
bytes long: it only decodes when something follows (a message always does inside `SendMessages`). -/
theorem partitioning_roundtrip (p : Partitioning) (rest : Bytes) (h : p.Valid)
    (hrest : p.kind = .balanced → p.value = [] → rest ≠ []) :
    decodePartitioning (encodePartitioning p ++ rest) = some (p, rest) := by
  have h256 : p.value.length < 256 := Nat.lt_succ_of_le h.1
  have hg : ¬ (encodePartitioning p ++ rest).length < PARTITIONING_MIN_LEN := by
    have : p.value.length + rest.length ≠ 0 := fun h0 =>
      hrest (Decidable.byContradiction fun hk => by have := h.2 hk; omega)
        (List.eq_nil_of_length_eq_zero (by omega)) (List.eq_nil_of_length_eq_zero (by omega))
    rw [List.length_append, partitioning_length, PARTITIONING_MIN_LEN]; omega
  simp only [decodePartitioning, ↓if_neg hg, encodePartitioning, codec, readU8_u8 _ h256]

@[codec] theorem strategyBody_roundtrip (s : PollingStrategy) (rest : Bytes) (h : s.Valid) :
    decodeStrategyBody (encodeStrategy s ++ rest) = some (s, rest) := by
  simp only [decodeStrategyBody, encodeStrategy, codec, readLE8 _ h]

theorem strategy_roundtrip (s : PollingStrategy) (h : s.Valid) :
    decodeStrategy (encodeStrategy s) = some s := by
  have hl : (encodeStrategy s).length = 9 := by simp [encodeStrategy]
  simp [decodeStrategy, of_append_nil (strategyBody_roundtrip s [] h), hl]

@[codec] theorem optId_roundtrip (o : Option Nat) (rest : Bytes) (h : OptId.Valid o) :
    decodeOptId (encodeOptId o ++ rest) = some (o, rest) := by
  cases o with
  | none => simp [decodeOptId, encodeOptId, readLE4 rest (n := 0) (by decide)]
  | some n => simp [decodeOptId, encodeOptId, readLE4 rest h.2, Nat.ne_of_gt h.1]

@[simp] theorem encodeOptId_length (o : Option Nat) : (encodeOptId o).length = 4 := by
  simp [encodeOptId]

theorem pollMessages_min_length (c : PollMessages) (h : c.Valid) :
    POLL_MESSAGES_MIN_LEN ≤ (encodePollMessages c).length := by
  have h1 : 4 ≤ _ := consumer_min_length _ h.1
  have h2 : 3 ≤ _ := identifier_min_length _ h.2.1
  have h3 : 3 ≤ _ := identifier_min_length _ h.2.2.1
  simp only [encodePollMessages, encodeStrategy, POLL_MESSAGES_MIN_LEN, List.length_append,
    encodeOptId_length, le32_length, le64_length, List.length_singleton]
  omega

theorem pollMessages_roundtrip (c : PollMessages) (rest : Bytes) (h : c.Valid) :
    decodePollMessages (encodePollMessages c ++ rest) = some c := by
  have ⟨hc, hs, ht, hp, hst, hcnt⟩ := h
  simp only [decodePollMessages, ↓guard_pass (pollMessages_min_length c h), encodePollMessages, codec, hc,
    hs, ht, hp, hst, hcnt]

theorem flushUnsavedBuffer_roundtrip (c : FlushUnsavedBuffer) (rest : Bytes) (h : c.Valid) :
    decodeFlushUnsavedBuffer (encodeFlushUnsavedBuffer c ++ rest) = some c := by
  obtain ⟨hs, ht, hp⟩ := h
  simp only [decodeFlushUnsavedBuffer, encodeFlushUnsavedBuffer, codec, hs, ht, hp]

theorem consumerOffsetRef_min_length (c : ConsumerOffsetRef) (h : c.Valid) :
    CONSUMER_OFFSET_MIN_LEN ≤ (encodeConsumerOffsetRef c).length := by
  have h1 : 4 ≤ _ := consumer_min_length _ h.1
  have h2 : 3 ≤ _ := identifier_min_length _ h.2.1
  have h3 : 3 ≤ _ := identifier_min_length _ h.2.2.1
  simp only [encodeConsumerOffsetRef, CONSUMER_OFFSET_MIN_LEN, List.length_append, encodeOptId_length]
  omega

theorem consumerOffsetRef_roundtrip (c : ConsumerOffsetRef) (rest : Bytes) (h : c.Valid) :
    decodeConsumerOffsetRef (encodeConsumerOffsetRef c ++ rest) = some c := by
  have ⟨hc, hs, ht, hp⟩ := h
  simp only [decodeConsumerOffsetRef, ↓guard_pass (consumerOffsetRef_min_length c h),
    encodeConsumerOffsetRef, codec, hc, hs, ht, hp]

theorem storeConsumerOffset_min_length (c : StoreConsumerOffset) (h : c.Valid) :
    STORE_CONSUMER_OFFSET_MIN_LEN ≤ (encodeStoreConsumerOffset c).length := by
  have h1 : 4 ≤ _ := consumer_min_length _ h.1
  have h2 : 3 ≤ _ := identifier_min_length _ h.2.1
  have h3 : 3 ≤ _ := identifier_min_length _ h.2.2.1
  simp only [encodeStoreConsumerOffset, STORE_CONSUMER_OFFSET_MIN_LEN, List.length_append,
    encodeOptId_length, le64_length]
  omega

theorem storeConsumerOffset_roundtrip (c : StoreConsumerOffset) (rest : Bytes) (h : c.Valid) :
    decodeStoreConsumerOffset (encodeStoreConsumerOffset c ++ rest) = some c := by
  have ⟨hc, hs, ht, hp, ho⟩ := h
  simp only [decodeStoreConsumerOffset, ↓guard_pass (storeConsumerOffset_min_length c h),
    encodeStoreConsumerOffset, codec, hc, hs, ht, hp, ho]

theorem createStream_min_length (c : CreateStream) (h : c.Valid) :
    CREATE_STREAM_MIN_LEN ≤ (encodeCreateStream c).length := by
  have := h.2.1
  simp only [encodeCreateStream, CREATE_STREAM_MIN_LEN, List.length_append, encodeOptId_length,
    encodeStr8_length]
  omega

theorem createStream_roundtrip (c : CreateStream) (rest : Bytes) (h : c.Valid) :
    decodeCreateStream (encodeCreateStream c ++ rest) = some c := by
  have ⟨hi, hn⟩ := h
  simp only [decodeCreateStream, ↓guard_pass (createStream_min_length c h), encodeCreateStream, codec, hi,
    str8_roundtrip_name _ _ hn]

theorem updateStream_min_length (c : UpdateStream) (h : c.Valid) :
    UPDATE_STREAM_MIN_LEN ≤ (encodeUpdateStream c).length := by
  have h1 : 3 ≤ _ := identifier_min_length _ h.1
  have := h.2.1
  simp only [encodeUpdateStream, UPDATE_STREAM_MIN_LEN, List.length_append, encodeStr8_length]
  omega

theorem updateStream_roundtrip (c : UpdateStream) (rest : Bytes) (h : c.Valid) :
    decodeUpdateStream (encodeUpdateStream c ++ rest) = some c := by
  have ⟨hs, hn⟩ := h
  simp only [decodeUpdateStream, ↓guard_pass (updateStream_min_length c h), encodeUpdateStream, codec, hs,
    str8_roundtrip_name _ _ hn]

theorem singleId_min_length (i : Identifier) (h : i.Valid) :
    SINGLE_ID_MIN_LEN ≤ (encodeIdentifier i).length := identifier_min_length i h

theorem singleId_roundtrip (i : Identifier) (rest : Bytes) (h : i.Valid) :
    decodeSingleId (encodeIdentifier i ++ rest) = some i := by
  rw [decodeSingleId, guard_pass (singleId_min_length i h), identifier_roundtrip _ _ h]

theorem topicRef_min_length (c : TopicRef) (h : c.Valid) :
    TOPIC_REF_MIN_LEN ≤ (encodeTopicRef c).length := by
  have h1 : 3 ≤ _ := identifier_min_length _ h.1
  have h2 : 3 ≤ _ := identifier_min_length _ h.2
  simp only [encodeTopicRef, TOPIC_REF_MIN_LEN, List.length_append]
  omega

theorem topicRef_roundtrip (c : TopicRef) (rest : Bytes) (h : c.Valid) :
    decodeTopicRef (encodeTopicRef c ++ rest) = some c := by
  simp only [decodeTopicRef, ↓guard_pass (topicRef_min_length c h), encodeTopicRef, codec, h.1, h.2]

theorem partitions_min_length (c : Partitions) (h : c.Valid) :
    PARTITIONS_MIN_LEN ≤ (encodePartitions c).length := by
  have h1 : 3 ≤ _ := identifier_min_length _ h.1
  have h2 : 3 ≤ _ := identifier_min_length _ h.2.1
  simp only [encodePartitions, PARTITIONS_MIN_LEN, List.length_append, le32_length]
  omega

theorem partitions_roundtrip (c : Partitions) (rest : Bytes) (h : c.Valid) :
    decodePartitions (encodePartitions c ++ rest) = some c := by
  have ⟨hs, ht, _, h2⟩ := h
  have hc : c.count < 2 ^ 32 := Nat.lt_of_le_of_lt h2 (by decide)
  simp only [decodePartitions, ↓guard_pass (partitions_min_length c h), encodePartitions, codec, hs, ht, hc]

theorem createConsumerGroup_min_length (c : CreateConsumerGroup) (h : c.Valid) :
    CREATE_CONSUMER_GROUP_MIN_LEN ≤ (encodeCreateConsumerGroup c).length := by
  have h1 : 3 ≤ _ := identifier_min_length _ h.1
  have h2 : 3 ≤ _ := identifier_min_length _ h.2.1
  simp only [encodeCreateConsumerGroup, CREATE_CONSUMER_GROUP_MIN_LEN, List.length_append,
    encodeOptId_length, encodeStr8_length]
  omega

theorem createConsumerGroup_roundtrip (c : CreateConsumerGroup) (rest : Bytes) (h : c.Valid) :
    decodeCreateConsumerGroup (encodeCreateConsumerGroup c ++ rest) = some c := by
  have ⟨hs, ht, hi, hn⟩ := h
  simp only [decodeCreateConsumerGroup, ↓guard_pass (createConsumerGroup_min_length c h),
    encodeCreateConsumerGroup, codec, hs, ht, hi, str8_roundtrip_name _ _ hn]

theorem groupRef_min_length (c : GroupRef) (h : c.Valid) :
    GROUP_REF_MIN_LEN ≤ (encodeGroupRef c).length := by
  have h1 : 3 ≤ _ := identifier_min_length _ h.1
  have h2 : 3 ≤ _ := identifier_min_length _ h.2.1
  have h3 : 3 ≤ _ := identifier_min_length _ h.2.2
  simp only [encodeGroupRef, GROUP_REF_MIN_LEN, List.length_append]
  omega

theorem groupRef_roundtrip (c : GroupRef) (rest : Bytes) (h : c.Valid) :
    decodeGroupRef (encodeGroupRef c ++ rest) = some c := by
  simp only [decodeGroupRef, ↓guard_pass (groupRef_min_length c h), encodeGroupRef, codec, h.1, h.2.1,
    h.2.2]

@[codec] theorem expiry_lt (e : Expiry) (h : e.Valid) : e.toNat < 2 ^ 64 := by
  cases e with
  | expireMicros n => exact Nat.lt_of_lt_of_le h.2 (Nat.sub_le _ 1)
  | serverDefault => decide
  | neverExpire => decide

@[codec] theorem expiry_roundtrip (e : Expiry) (h : e.Valid) : Expiry.ofNat e.toNat = e := by
  cases e with
  | expireMicros n => simp [Expiry.toNat, Expiry.ofNat, Nat.ne_of_lt h.2, Nat.ne_of_gt h.1]
  | serverDefault => rfl
  | neverExpire => rfl

@[codec] theorem maxTopicSize_lt (e : MaxTopicSize) (h : e.Valid) : e.toNat < 2 ^ 64 := by
  cases e with
  | custom n => exact Nat.lt_of_lt_of_le h.2 (Nat.sub_le _ 1)
  | serverDefault => decide
  | unlimited => decide

@[codec] theorem maxTopicSize_roundtrip (e : MaxTopicSize) (h : e.Valid) : MaxTopicSize.ofNat e.toNat = e := by
  cases e with
  | custom n => simp [MaxTopicSize.toNat, MaxTopicSize.ofNat, Nat.ne_of_lt h.2, Nat.ne_of_gt h.1]
  | serverDefault => rfl
  | unlimited => rfl

@[codec] theorem optRf_roundtrip (o : Option Nat) (rest : Bytes) (h : OptRf.Valid o) :
    decodeOptRf (encodeOptRf o ++ rest) = some (o, rest) := by
  cases o with
  | none => rfl
  | some n => simp [decodeOptRf, encodeOptRf, readU8_u8 rest h.2, Nat.ne_of_gt h.1]

@[simp] theorem encodeOptRf_length (o : Option Nat) : (encodeOptRf o).length = 1 := rfl

theorem createTopic_min_length (c : CreateTopic) :
    CREATE_TOPIC_MIN_LEN ≤ (encodeCreateTopic c).length := by
  simp only [encodeCreateTopic, CREATE_TOPIC_MIN_LEN, List.length_append, encodeOptId_length, le32_length,
    le64_length, encodeOptRf_length, encodeStr8_length, List.length_singleton]
  omega

theorem createTopic_roundtrip (c : CreateTopic) (rest : Bytes) (h : c.Valid) :
    decodeCreateTopic (encodeCreateTopic c ++ rest) = some c := by
  have ⟨hs, hi, hp, he, hm, hr, hn⟩ := h
  have hp' : c.partitions < 2 ^ 32 := Nat.lt_of_le_of_lt hp (by decide)
  simp only [decodeCreateTopic, ↓guard_pass (createTopic_min_length c), encodeCreateTopic, codec, hs, hi,
    hp', he, hm, hr, str8_roundtrip_name _ _ hn]

theorem updateTopic_min_length (c : UpdateTopic) (h : c.Valid) :
    UPDATE_TOPIC_MIN_LEN ≤ (encodeUpdateTopic c).length := by
  have h1 : 3 ≤ _ := identifier_min_length _ h.1
  have h2 : 3 ≤ _ := identifier_min_length _ h.2.1
  simp only [encodeUpdateTopic, UPDATE_TOPIC_MIN_LEN, List.length_append, le64_length, encodeOptRf_length,
    encodeStr8_length, List.length_singleton]
  omega

theorem updateTopic_roundtrip (c : UpdateTopic) (rest : Bytes) (h : c.Valid) :
    decodeUpdateTopic (encodeUpdateTopic c ++ rest) = some c := by
  have ⟨hs, ht, he, hm, hr, hn⟩ := h
  simp only [decodeUpdateTopic, ↓guard_pass (updateTopic_min_length c h), encodeUpdateTopic, codec, hs, ht,
    he, hm, hr, str8_roundtrip_name _ _ hn]

theorem encodeHeader_length (h : Header) : (encodeHeader h).length = h.size := by
  simp [encodeHeader, Header.size]; omega

theorem encodeHeaders_length (hs : List Header) : (encodeHeaders hs).length = headersSize hs := by
  induction hs with
  | nil => rfl
  | cons h hs ih => simp [encodeHeaders, headersSize, encodeHeader_length, ih] at *

theorem headersSize_ge (hs : List Header) : hs.length ≤ headersSize hs := by
  induction hs with
  | nil => simp [headersSize]
  | cons h hs ih => simp [headersSize, Header.size] at *; omega

theorem header_roundtrip (h : Header) (rest : Bytes) (hv : h.Valid) :
    decodeHeader (encodeHeader h ++ rest) = some (h, rest) := by
  obtain ⟨⟨hk1, hk2, hku⟩, hv1, hv2, _⟩ := hv
  have a1 : ¬ (h.key.length = 0 ∨ h.key.length > 255) := by omega
  have a2 : ¬ (h.value.length = 0 ∨ h.value.length > 255) := by omega
  have a3 : ¬ (!validUtf8 h.key) = true := by simp [hku]
  simp only [decodeHeader, encodeHeader, codec, readLE4 _ (Nat.lt_of_le_of_lt hk2 (by decide)), ↓if_neg a1,
    ↓if_neg a3, readLE4 _ (Nat.lt_of_le_of_lt hv2 (by decide)), ↓if_neg a2]

theorem any_key_eq_false {α β : Type} [BEq β] [LawfulBEq β] (f : α → β) {acc xs : List α} {x : α}
    (hd : ((acc ++ x :: xs).map f).Nodup) : acc.any (fun y => f y == f x) = false := by
  rw [List.any_eq_false]
  intro y hy he
  rw [List.map_append, List.map_cons] at hd
  exact (List.nodup_append.1 hd).2.2 _ (List.mem_map_of_mem hy) _ List.mem_cons_self (eq_of_beq he)

theorem decodeHeadersAux_roundtrip (hs acc : List Header) (fuel : Nat) (hf : hs.length ≤ fuel)
    (hv : ∀ h ∈ hs, h.Valid) (hd : ((acc ++ hs).map (·.key)).Nodup) :
    decodeHeadersAux fuel (encodeHeaders hs) acc = some (acc ++ hs) := by
  induction hs generalizing acc fuel with
  | nil => cases fuel <;> simp [decodeHeadersAux, encodeHeaders]
  | cons h hs ih =>
    cases fuel with
    | zero => exact absurd hf (Nat.not_succ_le_zero _)
    | succ fuel =>
      -- an entry starts with the four bytes of its key length
      have hne : (encodeHeaders (h :: hs)).isEmpty = false := rfl
      rw [decodeHeadersAux, hne]
      simp only [encodeHeaders, Bool.false_eq_true, if_false,
        header_roundtrip _ _ (hv h List.mem_cons_self), insertHeader, any_key_eq_false Header.key hd]
      rw [ih (acc ++ [h]) fuel (Nat.le_of_succ_le_succ hf) (fun x hx => hv x (List.mem_cons_of_mem _ hx))
        (by simpa using hd)]
      simp

theorem headers_roundtrip (hs : List Header) (h : HeadersValid hs) :
    decodeHeaders (encodeHeaders hs) = some hs := by
  have := decodeHeadersAux_roundtrip hs [] (encodeHeaders hs).length
    (by rw [encodeHeaders_length]; exact headersSize_ge hs) h.1 (by simpa [keysDistinct] using h.2)
  simpa [decodeHeaders] using this

/-- the message the decoder returns: id 0 replaced by the fresh one (N2) -/
def Message.withId (fresh : Nat) (m : Message) : Message :=
  { m with id := if m.id = 0 then fresh else m.id }

theorem encodeMessage_length (m : Message) :
    (encodeMessage m).length = 16 + 4 + headersSize m.headers + 4 + m.payload.length := by
  simp [encodeMessage, encodeHeaders_length]; omega

theorem message_min_length (m : Message) : MESSAGE_MIN_LEN ≤ (encodeMessage m).length := by
  rw [encodeMessage_length, MESSAGE_MIN_LEN]; omega

theorem optHeaders_roundtrip (hs : List Header) (h : HeadersValid hs) :
    (if (encodeHeaders hs).length > 0 then decodeHeaders (encodeHeaders hs) else some []) = some hs := by
  cases hs with
  | nil => rfl
  | cons x xs =>
    have : 0 < (encodeHeaders (x :: xs)).length := by
      rw [encodeHeaders_length]; exact Nat.lt_of_lt_of_le (Nat.succ_pos xs.length) (headersSize_ge (x :: xs))
    rw [if_pos this, headers_roundtrip _ h]

theorem message_roundtrip (fresh : Nat) (m : Message) (rest : Bytes) (h : m.Valid) :
    decodeMessage fresh (encodeMessage m ++ rest) = some (m.withId fresh, rest) := by
  have hdrop : List.drop (16 + 4 + headersSize m.headers + 4 + m.payload.length)
      (encodeMessage m ++ rest) = rest := List.drop_left' (encodeMessage_length m)
  obtain ⟨hid, hhv, hhs, hp1, hp2⟩ := h
  rw [← encodeHeaders_length] at hhs
  simp only [decodeMessage, ↓guard_pass (message_min_length m), encodeMessage, codec, hid, hhs,
    optHeaders_roundtrip _ hhv, hp2, ↓if_neg (Nat.ne_of_gt hp1), ↓hdrop, Message.withId]

theorem encodeMessages_length_ge24 (ms : List Message) :
    24 * ms.length ≤ (encodeMessages ms).length := by
  induction ms with
  | nil => simp [encodeMessages]
  | cons m ms ih =>
    have := message_min_length m
    simp [encodeMessages, MESSAGE_MIN_LEN] at *; omega

theorem encodeMessages_length_ge (ms : List Message) : ms.length ≤ (encodeMessages ms).length := by
  have := encodeMessages_length_ge24 ms; omega

theorem messages_roundtrip (fresh : Nat) (ms : List Message) (fuel : Nat) (hf : ms.length ≤ fuel)
    (hv : ∀ m ∈ ms, m.Valid) :
    decodeMessagesAux fresh fuel (encodeMessages ms) = some (ms.map (Message.withId fresh)) := by
  induction ms generalizing fuel with
  | nil => cases fuel <;> rfl
  | cons m ms ih =>
    cases fuel with
    | zero => exact absurd hf (Nat.not_succ_le_zero _)
    | succ fuel =>
      -- a message starts with the sixteen bytes of its id
      have hne : (encodeMessages (m :: ms)).isEmpty = false := rfl
      rw [decodeMessagesAux, hne]
      simp only [encodeMessages, Bool.false_eq_true, if_false,
        message_roundtrip fresh m _ (hv m List.mem_cons_self),
        ih fuel (Nat.le_of_succ_le_succ hf) (fun x hx => hv x (List.mem_cons_of_mem _ hx)), List.map_cons]

def SendMessages.withIds (fresh : Nat) (c : SendMessages) : SendMessages :=
  { c with messages := c.messages.map (Message.withId fresh) }

theorem sendMessages_min_length (c : SendMessages) (h : c.Valid) :
    SEND_MESSAGES_MIN_LEN ≤ (encodeSendMessages c).length := by
  have h1 : 3 ≤ _ := identifier_min_length _ h.1
  have h2 : 3 ≤ _ := identifier_min_length _ h.2.1
  have h3 := encodeMessages_length_ge24 c.messages
  have h4 : c.messages.length ≠ 0 := fun h0 => h.2.2.2.1 (List.eq_nil_of_length_eq_zero h0)
  simp only [encodeSendMessages, SEND_MESSAGES_MIN_LEN, List.length_append, partitioning_length]
  omega

theorem sendMessages_roundtrip (fresh : Nat) (c : SendMessages) (h : c.Valid) :
    decodeSendMessages fresh (encodeSendMessages c) = some (c.withIds fresh) := by
  have hg : ¬ (encodeSendMessages c).length < SEND_MESSAGES_MIN_LEN :=
    Nat.not_lt.2 (sendMessages_min_length c h)
  obtain ⟨hs, ht, hp, hne, hv, _, _⟩ := h
  have hrest : c.partitioning.kind = .balanced → c.partitioning.value = [] →
      encodeMessages c.messages ≠ [] := fun _ _ h0 =>
    hne (List.eq_nil_of_length_eq_zero (Nat.le_zero.1 (by
      have := encodeMessages_length_ge c.messages; rwa [h0] at this)))
  simp only [decodeSendMessages, ↓if_neg hg, encodeSendMessages, codec, hs, ht,
    partitioning_roundtrip _ _ hp hrest,
    messages_roundtrip fresh c.messages _ (encodeMessages_length_ge c.messages) hv, SendMessages.withIds]

@[simp] theorem boolByte_beq_one (b : Bool) : (boolByte b == 1) = b := by cases b <;> rfl

@[simp] theorem encodeFlags_length (fs : List Bool) : (encodeFlags fs).length = fs.length := by
  simp [encodeFlags]

@[codec] theorem flags_roundtrip {n : Nat} (fs : List Bool) (rest : Bytes) (h : fs.length = n) :
    decodeFlags n (encodeFlags fs ++ rest) = some (fs, rest) := by
  rw [decodeFlags, takeN_append_of_length _ rest ((encodeFlags_length fs).trans h)]
  simp [encodeFlags, Function.comp_def]

theorem encodeTopicPerms_cons (t : TopicPerm) (ts : List TopicPerm) :
    encodeTopicPerms (t :: ts) =
      le32 t.id ++ (encodeFlags t.flags ++ ((if ts = [] then 0 else 1) :: encodeTopicPerms ts)) := by
  cases ts <;> simp [encodeTopicPerms]

theorem encodeStreamPerms_cons (s : StreamPerm) (ss : List StreamPerm) :
    encodeStreamPerms (s :: ss) =
      encodeStreamPerm s ++ ((if ss = [] then 0 else 1) :: encodeStreamPerms ss) := by
  cases ss <;> simp [encodeStreamPerms]

theorem encodeTopicPerms_length (ts : List TopicPerm) (hv : ∀ t ∈ ts, t.Valid) :
    (encodeTopicPerms ts).length = 9 * ts.length := by
  induction ts with
  | nil => rfl
  | cons t ts ih =>
    simp [encodeTopicPerms_cons, ih (fun x hx => hv x (List.mem_cons_of_mem _ hx)),
      (hv t List.mem_cons_self).2]
    omega

theorem topicPerms_roundtrip (ts acc : List TopicPerm) (fuel : Nat) (rest : Bytes) (hne : ts ≠ [])
    (hf : ts.length ≤ fuel) (hv : ∀ t ∈ ts, t.Valid) (hd : ((acc ++ ts).map (·.id)).Nodup) :
    decodeTopicPerms fuel (encodeTopicPerms ts ++ rest) acc = some (acc ++ ts, rest) := by
  induction ts generalizing acc fuel with
  | nil => exact absurd rfl hne
  | cons t ts ih =>
    cases fuel with
    | zero => exact absurd hf (Nat.not_succ_le_zero _)
    | succ fuel =>
      obtain ⟨hid, hfl⟩ := hv t List.mem_cons_self
      simp only [decodeTopicPerms, encodeTopicPerms_cons, codec, hid, hfl, insertTopicPerm,
        any_key_eq_false TopicPerm.id hd, Bool.false_eq_true, if_false]
      cases ts with
      | nil => simp [encodeTopicPerms]
      | cons t' ts' =>
        simpa using ih (acc ++ [t]) fuel (List.cons_ne_nil _ _) (Nat.le_of_succ_le_succ hf)
          (fun x hx => hv x (List.mem_cons_of_mem _ hx)) (by simpa using hd)

theorem encodeStreamPerm_length (s : StreamPerm) (hv : s.Valid) :
    (encodeStreamPerm s).length + 1 = s.size := by
  obtain ⟨_, hfl, htv, _⟩ := hv
  by_cases ht : s.topics = []
  · simp [encodeStreamPerm, StreamPerm.size, ht, hfl]
  · simp [encodeStreamPerm, StreamPerm.size, ht, hfl, encodeTopicPerms_length _ htv]; omega

theorem streamPerm_roundtrip (s : StreamPerm) (rest : Bytes) (hv : s.Valid) :
    decodeStreamPerm (encodeStreamPerm s ++ rest) = some (s, rest) := by
  obtain ⟨id, flags, topics⟩ := s
  obtain ⟨hid, hfl, htv, htd⟩ :
    id < 2 ^ 32 ∧ flags.length = 6 ∧ (∀ t ∈ topics, t.Valid) ∧ (topics.map TopicPerm.id).Nodup := hv
  simp only [decodeStreamPerm, encodeStreamPerm, codec, hid, hfl]
  by_cases ht : topics = []
  · subst ht; rfl
  · have hlen : topics.length ≤ (encodeTopicPerms topics).length + rest.length := by
      rw [encodeTopicPerms_length _ htv]; omega
    simp [ht, topicPerms_roundtrip topics [] _ rest ht hlen htv (by simpa using htd)]

theorem encodeStreamPerms_length (ss : List StreamPerm) (hv : ∀ s ∈ ss, s.Valid) :
    (encodeStreamPerms ss).length = (ss.map StreamPerm.size).sum := by
  induction ss with
  | nil => rfl
  | cons s ss ih =>
    have := encodeStreamPerm_length s (hv s List.mem_cons_self)
    simp [encodeStreamPerms_cons, ih (fun x hx => hv x (List.mem_cons_of_mem _ hx))]
    omega

theorem streamPermsSize_ge (ss : List StreamPerm) : ss.length ≤ (ss.map StreamPerm.size).sum := by
  induction ss with
  | nil => simp
  | cons s ss ih => simp [StreamPerm.size]; omega

theorem streamPerms_roundtrip (ss acc : List StreamPerm) (fuel : Nat) (rest : Bytes) (hne : ss ≠ [])
    (hf : ss.length ≤ fuel) (hv : ∀ s ∈ ss, s.Valid) (hd : ((acc ++ ss).map (·.id)).Nodup) :
    decodeStreamPerms fuel (encodeStreamPerms ss ++ rest) acc = some (acc ++ ss, rest) := by
  induction ss generalizing acc fuel with
  | nil => exact absurd rfl hne
  | cons s ss ih =>
    cases fuel with
    | zero => exact absurd hf (Nat.not_succ_le_zero _)
    | succ fuel =>
      simp only [decodeStreamPerms, encodeStreamPerms_cons, codec,
        streamPerm_roundtrip _ _ (hv s List.mem_cons_self), insertStreamPerm,
        any_key_eq_false StreamPerm.id hd, Bool.false_eq_true, if_false]
      cases ss with
      | nil => simp [encodeStreamPerms]
      | cons s' ss' =>
        simpa using ih (acc ++ [s]) fuel (List.cons_ne_nil _ _) (Nat.le_of_succ_le_succ hf)
          (fun x hx => hv x (List.mem_cons_of_mem _ hx)) (by simpa using hd)

theorem encodePermissions_length (p : Permissions) (hv : p.Valid) :
    (encodePermissions p).length = p.size := by
  obtain ⟨hg, hsv, _⟩ := hv
  by_cases hs : p.streams = []
  · simp [encodePermissions, Permissions.size, hs, hg]
  · simp [encodePermissions, Permissions.size, hs, hg, encodeStreamPerms_length _ hsv]; omega

theorem permissions_roundtrip (p : Permissions) (rest : Bytes) (hv : p.Valid) :
    decodePermissions (encodePermissions p ++ rest) = some p := by
  obtain ⟨global, streams⟩ := p
  obtain ⟨hg, hsv, hsd⟩ :
    global.length = 10 ∧ (∀ s ∈ streams, s.Valid) ∧ (streams.map StreamPerm.id).Nodup := hv
  simp only [decodePermissions, encodePermissions, codec, hg]
  by_cases hs : streams = []
  · subst hs; rfl
  · have hlen : streams.length ≤ (encodeStreamPerms streams).length + rest.length := by
      have := streamPermsSize_ge streams
      rw [encodeStreamPerms_length _ hsv]; omega
    simp [hs, streamPerms_roundtrip streams [] _ rest hs hlen hsv (by simpa using hsd)]

@[codec] theorem optPerm_roundtrip (o : Option Permissions) (rest : Bytes) (h : OptPerm.Valid o) :
    decodeOptPerm (encodeOptPerm o ++ rest) = some (o, rest) := by
  cases o with
  | none => rfl
  | some p =>
    obtain ⟨hv, hsz⟩ := h
    rw [← encodePermissions_length p hv] at hsz
    simp [decodeOptPerm, encodeOptPerm, readLE4 _ hsz, of_append_nil (permissions_roundtrip p [] hv)]

theorem encodeOptPerm_length_ge (o : Option Permissions) : 1 ≤ (encodeOptPerm o).length := by
  cases o <;> simp [encodeOptPerm]

theorem createUser_min_length (c : CreateUser) (h : c.Valid) :
    CREATE_USER_MIN_LEN ≤ (encodeCreateUser c).length := by
  have h1 : 3 ≤ _ := h.1.1
  have h2 : 3 ≤ _ := h.2.1.1
  have := encodeOptPerm_length_ge c.permissions
  simp only [encodeCreateUser, CREATE_USER_MIN_LEN, List.length_append, encodeStr8_length,
    List.length_singleton]
  omega

theorem createUser_roundtrip (c : CreateUser) (rest : Bytes) (h : c.Valid) :
    decodeCreateUser (encodeCreateUser c ++ rest) = some c := by
  have ⟨hu, hp, hperm⟩ := h
  simp only [decodeCreateUser, ↓guard_pass (createUser_min_length c h), encodeCreateUser, codec,
    str8_roundtrip_name _ _ hu, str8_roundtrip_name _ _ hp, hperm]

theorem updateUser_min_length (c : UpdateUser) (h : c.Valid) :
    UPDATE_USER_MIN_LEN ≤ (encodeUpdateUser c).length := by
  have h1 : 3 ≤ _ := identifier_min_length _ h.1
  simp only [encodeUpdateUser, UPDATE_USER_MIN_LEN, List.length_append]
  cases c.username <;> cases c.status <;> simp <;> omega

theorem updateUser_roundtrip (c : UpdateUser) (rest : Bytes) (h : c.Valid) :
    decodeUpdateUser (encodeUpdateUser c ++ rest) = some c := by
  have hl := updateUser_min_length c h
  obtain ⟨user, username, status⟩ := c
  obtain ⟨hu, hn⟩ := h
  simp only [decodeUpdateUser, ↓guard_pass hl, encodeUpdateUser, codec, hu]
  -- what is left is computation on the two presence bytes and the status byte, once the name is read
  cases username with
  | none => rcases status with _ | _ | _ <;> rfl
  | some n =>
    simp only [codec, str8_roundtrip_name n _ hn]
    rcases status with _ | _ | _ <;> rfl

theorem updatePermissions_min_length (c : UpdatePermissions) (h : c.Valid) :
    UPDATE_PERMISSIONS_MIN_LEN ≤ (encodeUpdatePermissions c).length := by
  have h1 : 3 ≤ _ := identifier_min_length _ h.1
  have := encodeOptPerm_length_ge c.permissions
  simp only [encodeUpdatePermissions, UPDATE_PERMISSIONS_MIN_LEN, List.length_append]
  omega

theorem updatePermissions_roundtrip (c : UpdatePermissions) (rest : Bytes) (h : c.Valid) :
    decodeUpdatePermissions (encodeUpdatePermissions c ++ rest) = some c := by
  simp only [decodeUpdatePermissions, ↓guard_pass (updatePermissions_min_length c h),
    encodeUpdatePermissions, codec, h.1, h.2]

theorem changePassword_min_length (c : ChangePassword) (h : c.Valid) :
    CHANGE_PASSWORD_MIN_LEN ≤ (encodeChangePassword c).length := by
  have h1 : 3 ≤ _ := identifier_min_length _ h.1
  have h2 : 3 ≤ _ := h.2.1.1
  have h3 : 3 ≤ _ := h.2.2.1
  simp only [encodeChangePassword, CHANGE_PASSWORD_MIN_LEN, List.length_append, encodeStr8_length]
  omega

theorem changePassword_roundtrip (c : ChangePassword) (rest : Bytes) (h : c.Valid) :
    decodeChangePassword (encodeChangePassword c ++ rest) = some c := by
  have ⟨hu, h1, h2⟩ := h
  simp only [decodeChangePassword, ↓guard_pass (changePassword_min_length c h), encodeChangePassword, codec,
    hu, str8_roundtrip_name _ _ h1, str8_roundtrip_name _ _ h2]

@[codec] theorem optMeta_roundtrip (o : Option Bytes) (rest : Bytes) (h : OptMeta.Valid o) :
    decodeOptMeta (encodeOptMeta o ++ rest) = some (o, rest) := by
  cases o with
  | none => simp [decodeOptMeta, encodeOptMeta, readLE4 rest (n := 0) (by decide)]
  | some s =>
    obtain ⟨h1, h2, h3⟩ := h
    simp [decodeOptMeta, encodeOptMeta, readLE4 _ h2, Nat.ne_of_gt h1, h3]

theorem encodeOptMeta_length_ge (o : Option Bytes) : 4 ≤ (encodeOptMeta o).length := by
  cases o <;> simp [encodeOptMeta]

theorem loginUser_min_length (c : LoginUser) :
    LOGIN_USER_MIN_LEN ≤ (encodeLoginUser c).length := by
  have := encodeOptMeta_length_ge c.version
  simp only [encodeLoginUser, LOGIN_USER_MIN_LEN, List.length_append]
  omega

theorem loginUser_roundtrip (c : LoginUser) (rest : Bytes) (h : c.Valid) :
    decodeLoginUser (encodeLoginUser c ++ rest) = some c := by
  have ⟨hu, hp, hv, hc⟩ := h
  simp only [decodeLoginUser, ↓guard_pass (loginUser_min_length c), encodeLoginUser, codec,
    str8_roundtrip_name _ _ hu, str8_roundtrip_name _ _ hp, hv, hc]

theorem encodeCreatePat_length (c : CreatePat) : (encodeCreatePat c).length = 1 + c.name.length + 8 := by
  simp only [encodeCreatePat, List.length_append, encodeStr8_length, le64_length]

theorem createPat_min_length (c : CreatePat) (h : c.Valid) :
    CREATE_PAT_MIN_LEN ≤ (encodeCreatePat c).length := by
  have h1 : 3 ≤ _ := h.1.1
  rw [encodeCreatePat_length, CREATE_PAT_MIN_LEN]; omega

theorem createPat_roundtrip (c : CreatePat) (rest : Bytes) (h : c.Valid) :
    decodeCreatePat (encodeCreatePat c ++ rest) = some c := by
  have ⟨hn, he⟩ := h
  simp only [decodeCreatePat, ↓guard_pass (createPat_min_length c h), encodeCreatePat, codec,
    str8_roundtrip_name _ _ hn, he]

theorem patString_min_length (s : Bytes) (h : 3 ≤ s.length) :
    PAT_NAME_MIN_LEN ≤ (encodeStr8 s).length := by
  rw [encodeStr8_length, PAT_NAME_MIN_LEN]; omega

theorem patString_roundtrip {max : Nat} (s rest : Bytes) (h : NameOk 3 max s) (hm : max ≤ 255) :
    decodePatString (encodeStr8 s ++ rest) = some s := by
  rw [decodePatString, guard_pass (patString_min_length s h.1), str8_roundtrip_name _ _ h hm]

theorem loginPat_min_length (s : Bytes) (h : 1 ≤ s.length) :
    LOGIN_PAT_MIN_LEN ≤ (encodeStr8 s).length := by
  rw [encodeStr8_length, LOGIN_PAT_MIN_LEN]; omega

theorem loginPat_roundtrip {max : Nat} (s rest : Bytes) (h : NameOk 1 max s) (hm : max ≤ 255) :
    decodeLoginPat (encodeStr8 s ++ rest) = some s := by
  rw [decodeLoginPat, guard_pass (loginPat_min_length s h.1), str8_roundtrip_name _ _ h hm]

theorem getClient_roundtrip (id : Nat) (h : id < 2 ^ 32) : decodeGetClient (le32 id) = some id := by
  simp [decodeGetClient, show leVal (le32 id) = id from leVal_leBytes_of_lt (k := 4) h]

theorem snapshotTypes_roundtrip (ts : List Nat) (rest : Bytes)
    (h : ∀ t ∈ ts, snapshotTypeCode t = true) :
    decodeSnapshotTypes ts.length (ts.map UInt8.ofNat ++ rest) = some ts := by
  induction ts with
  | nil => rfl
  | cons t ts ih =>
    have ht : SnapshotType.okCode t = true := h t List.mem_cons_self
    have hlt : t < 256 := by
      simp [SnapshotType.okCode] at ht; omega
    simp [decodeSnapshotTypes, u8_toNat hlt, ht, ih (fun x hx => h x (List.mem_cons_of_mem _ hx))]

theorem getSnapshot_roundtrip (c : GetSnapshot) (rest : Bytes) (h : c.Valid) :
    decodeGetSnapshot (encodeGetSnapshot c ++ rest) = some c := by
  obtain ⟨hc, ht, hl, _⟩ := h
  have hok : SnapshotCompression.okCode c.compression = true := hc
  have hc256 : c.compression < 256 := by simp [snapshotCompressionCode] at hc; omega
  simp only [decodeGetSnapshot, encodeGetSnapshot, codec, readU8_u8 _ hc256, hok, Bool.not_true,
    Bool.false_eq_true, if_false, readU8_u8 _ (Nat.lt_succ_of_le hl), snapshotTypes_roundtrip _ _ ht]

theorem kind_roundtrip (k : CommandKind) : CommandKind.ofCode k.code = some k := by cases k <;> rfl

theorem code_lt (k : CommandKind) : k.code < 2 ^ 32 := by cases k <;> decide

theorem code_injective (a b : CommandKind) (h : a.code = b.code) : a = b :=
  Option.some.inj ((kind_roundtrip a).symm.trans (h ▸ kind_roundtrip b))

theorem mem_all (k : CommandKind) : k ∈ CommandKind.all :=
  -- `all` lists the kinds in the order of their declaration
  List.mem_of_getElem? (i := k.ctorIdx) (by cases k <;> rfl)

theorem map_of_append_nil {α β : Type} {d : Bytes → Option α} {bs : Bytes} {x : α} (k : α → β)
    (h : d (bs ++ []) = some x) : (d bs).map k = some (k x) :=
  congrArg (Option.map k) (of_append_nil h)

theorem payload_roundtrip (fresh : Nat) (c : Command) (h : c.Valid) :
    decodePayload fresh c.kind (encodePayload c) = some (c.withIds fresh) := by
  cases c <;> dsimp only [Command.kind, decodePayload, encodePayload, Command.withIds]
  case ping | getStats | getMe | getClients | getUsers | logoutUser | getPersonalAccessTokens
      | getStreams => rfl
  case getClient id => exact congrArg (Option.map _) (getClient_roundtrip id h.2)
  case getUser u | deleteUser u | getStream u | deleteStream u | purgeStream u | getTopics u =>
    exact map_of_append_nil _ (singleId_roundtrip u [] h)
  case createUser c => exact map_of_append_nil _ (createUser_roundtrip c [] h)
  case updateUser c => exact map_of_append_nil _ (updateUser_roundtrip c [] h)
  case updatePermissions c =>
    exact map_of_append_nil _ (updatePermissions_roundtrip c [] h)
  case changePassword c => exact map_of_append_nil _ (changePassword_roundtrip c [] h)
  case loginUser c => exact map_of_append_nil _ (loginUser_roundtrip c [] h)
  case createPersonalAccessToken c =>
    exact map_of_append_nil _ (createPat_roundtrip c [] h)
  case deletePersonalAccessToken n =>
    exact map_of_append_nil _ (patString_roundtrip n [] h (by decide))
  case loginWithPersonalAccessToken t =>
    exact map_of_append_nil _ (loginPat_roundtrip t [] h (by decide))
  case sendMessages c => exact congrArg (Option.map _) (sendMessages_roundtrip fresh c h)
  case pollMessages c => exact map_of_append_nil _ (pollMessages_roundtrip c [] h)
  case flushUnsavedBuffer c =>
    exact map_of_append_nil _ (flushUnsavedBuffer_roundtrip c [] h)
  case getConsumerOffset c | deleteConsumerOffset c =>
    exact map_of_append_nil _ (consumerOffsetRef_roundtrip c [] h)
  case storeConsumerOffset c =>
    exact map_of_append_nil _ (storeConsumerOffset_roundtrip c [] h)
  case createStream c => exact map_of_append_nil _ (createStream_roundtrip c [] h)
  case updateStream c => exact map_of_append_nil _ (updateStream_roundtrip c [] h)
  case getTopic c | deleteTopic c | purgeTopic c | getConsumerGroups c =>
    exact map_of_append_nil _ (topicRef_roundtrip c [] h)
  case createTopic c => exact map_of_append_nil _ (createTopic_roundtrip c [] h)
  case updateTopic c => exact map_of_append_nil _ (updateTopic_roundtrip c [] h)
  case createPartitions c | deletePartitions c =>
    exact map_of_append_nil _ (partitions_roundtrip c [] h)
  case getConsumerGroup c | deleteConsumerGroup c | joinConsumerGroup c | leaveConsumerGroup c =>
    exact map_of_append_nil _ (groupRef_roundtrip c [] h)
  case createConsumerGroup c =>
    exact map_of_append_nil _ (createConsumerGroup_roundtrip c [] h)
  case getSnapshotFile c => exact map_of_append_nil _ (getSnapshot_roundtrip c [] h)

theorem payload_min_length (c : Command) (h : c.Valid) :
    c.kind.minLen ≤ (encodePayload c).length := by
  cases c with
  | ping | getStats | getMe | getClients | getUsers | logoutUser | getPersonalAccessTokens | getStreams
  | getClient _ | flushUnsavedBuffer _ | getSnapshotFile _ => exact Nat.zero_le _
  | getUser u | deleteUser u | getStream u | deleteStream u | purgeStream u | getTopics u =>
    exact singleId_min_length u h
  | createUser c => exact createUser_min_length c h
  | updateUser c => exact updateUser_min_length c h
  | updatePermissions c => exact updatePermissions_min_length c h
  | changePassword c => exact changePassword_min_length c h
  | loginUser c => exact loginUser_min_length c
  | createPersonalAccessToken c => exact createPat_min_length c h
  | deletePersonalAccessToken n => exact patString_min_length n h.1
  | loginWithPersonalAccessToken t => exact loginPat_min_length t h.1
  | sendMessages c => exact sendMessages_min_length c h
  | pollMessages c => exact pollMessages_min_length c h
  | getConsumerOffset c | deleteConsumerOffset c => exact consumerOffsetRef_min_length c h
  | storeConsumerOffset c => exact storeConsumerOffset_min_length c h
  | createStream c => exact createStream_min_length c h
  | updateStream c => exact updateStream_min_length c h
  | getTopic c | deleteTopic c | purgeTopic c | getConsumerGroups c => exact topicRef_min_length c h
  | createTopic c => exact createTopic_min_length c
  | updateTopic c => exact updateTopic_min_length c h
  | createPartitions c | deletePartitions c => exact partitions_min_length c h
  | getConsumerGroup c | deleteConsumerGroup c | joinConsumerGroup c | leaveConsumerGroup c =>
    exact groupRef_min_length c h
  | createConsumerGroup c => exact createConsumerGroup_min_length c h

theorem decodeCommand_code (fresh : Nat) (k : CommandKind) (payload : Bytes) :
    decodeCommand fresh (le32 k.code ++ payload) = decodePayload fresh k payload := by
  simp only [decodeCommand, readLE4 _ (code_lt k), kind_roundtrip]

theorem command_roundtrip (fresh : Nat) (c : Command) (h : c.Valid) :
    decodeCommand fresh (encodeCommand c) = some (c.withIds fresh) := by
  rw [encodeCommand, decodeCommand_code, payload_roundtrip fresh c h]

theorem frame_roundtrip (fresh : Nat) (c : Command) (rest : Bytes) (h : c.Valid)
    (hl : (encodeCommand c).length < 2 ^ 32) :
    decodeFrame fresh (encodeFrame c ++ rest) = some (c.withIds fresh, rest) := by
  simp only [decodeFrame, encodeFrame, codec, hl, command_roundtrip fresh c h]

theorem response_roundtrip (r : Response) (rest : Bytes) (h : r.Valid) :
    decodeResponse (encodeResponse r ++ rest) = some (r, rest) := by
  simp only [decodeResponse, encodeResponse, codec, h.1, h.2]

theorem encodeRetainedBody_length (m : RetainedMessage) : (encodeRetainedBody m).length = m.size := by
  simp [encodeRetainedBody, RetainedMessage.size]; omega

theorem retainedBody_roundtrip (m : RetainedMessage) (h : m.Valid) :
    decodeRetainedBody (encodeRetainedBody m) = some m := by
  obtain ⟨ho, ht, hi, hc, hh, _⟩ := h
  simp only [decodeRetainedBody, encodeRetainedBody, codec, ho, ht, hi, hc, hh]

theorem retained_roundtrip (m : RetainedMessage) (rest : Bytes) (h : m.Valid) :
    decodeRetained (encodeRetained m ++ rest) = some (m, rest) := by
  simp only [decodeRetained, encodeRetained, codec, h.2.2.2.2.2,
    takeN_append_of_length _ _ (encodeRetainedBody_length m), retainedBody_roundtrip m h]

theorem encodeRetained_length (m : RetainedMessage) : (encodeRetained m).length = 4 + m.size := by
  simp [encodeRetained, encodeRetainedBody_length]

theorem encodeRetainedAll_length_ge (ms : List RetainedMessage) :
    ms.length ≤ (encodeRetainedAll ms).length := by
  induction ms with
  | nil => simp [encodeRetainedAll]
  | cons m ms ih => simp [encodeRetainedAll, encodeRetained_length] at *; omega

theorem retainedAll_roundtrip (ms : List RetainedMessage) (fuel : Nat) (hf : ms.length ≤ fuel)
    (hv : ∀ m ∈ ms, m.Valid) :
    decodeRetainedAll fuel (encodeRetainedAll ms) = some ms := by
  induction ms generalizing fuel with
  | nil => cases fuel <;> rfl
  | cons m ms ih =>
    cases fuel with
    | zero => exact absurd hf (Nat.not_succ_le_zero _)
    | succ fuel =>
      -- a record starts with the four bytes of its length
      have hne : (encodeRetainedAll (m :: ms)).isEmpty = false := rfl
      rw [decodeRetainedAll, hne]
      simp only [encodeRetainedAll, Bool.false_eq_true, if_false,
        retained_roundtrip m _ (hv m List.mem_cons_self),
        ih fuel (Nat.le_of_succ_le_succ hf) (fun x hx => hv x (List.mem_cons_of_mem _ hx))]

@[codec] theorem batchHeader_roundtrip (h : BatchHeader) (rest : Bytes) (hv : h.Valid) :
    decodeBatchHeader (encodeBatchHeader h ++ rest) = some (h, rest) := by
  obtain ⟨h1, h2, h3, h4⟩ := hv
  simp only [decodeBatchHeader, encodeBatchHeader, codec, h1, h2, h3, h4]

theorem encodeBatchHeader_length (h : BatchHeader) :
    (encodeBatchHeader h).length = RETAINED_BATCH_HEADER_LEN := by
  simp [encodeBatchHeader, RETAINED_BATCH_HEADER_LEN]

theorem batch_roundtrip (h : BatchHeader) (ms : List RetainedMessage) (rest : Bytes) (hv : h.Valid)
    (hms : ∀ m ∈ ms, m.Valid) (hlen : h.length = (encodeRetainedAll ms).length) :
    decodeBatch (encodeBatch h ms ++ rest) = some (h, ms, rest) := by
  simp only [decodeBatch, encodeBatch, codec, hv, hlen,
    retainedAll_roundtrip ms _ (encodeRetainedAll_length_ge ms) hms]

theorem index_roundtrip (i : IndexRecord) (rest : Bytes) (h : i.Valid) :
    decodeIndex (encodeIndex i ++ rest) = some (i, rest) := by
  simp only [decodeIndex, encodeIndex, codec, h.1, h.2.1, h.2.2]

theorem encodeIndex_length (i : IndexRecord) : (encodeIndex i).length = INDEX_SIZE := by
  simp [encodeIndex, INDEX_SIZE]

theorem readLE_length {k n : Nat} {bs r : Bytes} (h : readLE k bs = some (n, r)) :
    bs.length = k + r.length := by
  simp only [readLE, takeN] at h
  by_cases hk : k ≤ bs.length
  · simp [hk] at h; obtain ⟨_, rfl⟩ := h; simp; omega
  · simp [hk] at h

theorem decodeIndex_short (bs : Bytes) (h : bs.length < INDEX_SIZE) : decodeIndex bs = none := by
  simp only [INDEX_SIZE] at h
  cases hd : decodeIndex bs with
  | none => rfl
  | some p =>
    exfalso
    simp only [decodeIndex, Option.bind_eq_bind, Option.bind_eq_some_iff] at hd
    obtain ⟨⟨o, r1⟩, h1, ⟨q, r2⟩, h2, ⟨t, r3⟩, h3, _⟩ := hd
    dsimp only at h2 h3
    have := readLE_length h1
    have := readLE_length h2
    have := readLE_length h3
    omega

theorem indexes_roundtrip (is : List IndexRecord) (junk : Bytes) (fuel : Nat) (hf : is.length ≤ fuel)
    (hv : ∀ i ∈ is, i.Valid) (hj : junk.length < INDEX_SIZE) :
    decodeIndexes fuel (encodeIndexes is ++ junk) = is := by
  induction is generalizing fuel with
  | nil =>
    cases fuel with
    | zero => rfl
    | succ fuel => simp [decodeIndexes, encodeIndexes, decodeIndex_short junk hj]
  | cons i is ih =>
    cases fuel with
    | zero => exact absurd hf (Nat.not_succ_le_zero _)
    | succ fuel =>
      simp [decodeIndexes, encodeIndexes, List.append_assoc, index_roundtrip _ _ (hv i List.mem_cons_self),
        ih fuel (Nat.le_of_succ_le_succ hf) (fun x hx => hv x (List.mem_cons_of_mem _ hx))]

theorem stateEntry_roundtrip (e : StateEntry) (h : e.Valid) :
    decodeStateEntry (encodeStateEntry e) = some e := by
  obtain ⟨h1, h2, h3, h4, h5, h6, h7, h8, h9⟩ := h
  simp only [decodeStateEntry, encodeStateEntry, codec, h1, h2, h3, h4, h5, h6, h7, h8, h9]

theorem withIds_of_journaled (fresh : Nat) (c : Command) (h : c.kind.journaled = true) :
    c.withIds fresh = c := by
  unfold Command.withIds
  split
  · cases h
  · rfl

theorem patWithHash_roundtrip (c : CreatePat) (hash rest : Bytes) (hc : c.Valid)
    (hl : hash.length < 2 ^ 32) (hu : validUtf8 hash = true) :
    decodePatWithHash (encodePatWithHash c hash ++ rest) = some (.createPatWithHash c hash) := by
  have hcl : (encodeCreatePat c).length < 2 ^ 32 := by
    have : c.name.length ≤ 30 := hc.1.2.1
    rw [encodeCreatePat_length]; omega
  simp only [decodePatWithHash, encodePatWithHash, codec, hcl, of_append_nil (createPat_roundtrip c [] hc),
    hl, hu, if_true]

theorem entryCommand_roundtrip (e : EntryCommand) (rest : Bytes) (h : e.Valid) :
    decodeEntryCommand (encodeEntryCommand e ++ rest) = some e := by
  cases e with
  | cmd c =>
    obtain ⟨hv, hj, hl⟩ := h
    have hne : c.kind ≠ .createPersonalAccessToken := fun h0 => by rw [h0] at hj; exact absurd hj (by decide)
    simp only [decodeEntryCommand, encodeEntryCommand, codec, readLE4 _ (code_lt c.kind), hl,
      kind_roundtrip, if_neg hne, hj, if_true, payload_roundtrip 0 c hv, withIds_of_journaled 0 c hj,
      Option.map_some]
  | createPatWithHash c hash =>
    obtain ⟨hc, hl', hu⟩ := h
    have hlen : (encodePatWithHash c hash).length < 2 ^ 32 := by
      have : c.name.length ≤ 30 := hc.1.2.1
      simp only [encodePatWithHash, List.length_append, le32_length, encodeCreatePat_length]; omega
    simp only [decodeEntryCommand, encodeEntryCommand, codec,
      readLE4 _ (code_lt .createPersonalAccessToken), hlen, kind_roundtrip, if_true,
      of_append_nil (patWithHash_roundtrip c hash [] hc (Nat.lt_trans hl' (by decide)) hu)]

end Iggy.Codec

/-
Segment-level operations preserve the segment invariant: `Seg.create`, `Seg.appendBatch`, `Seg.persist`.
-/
import Iggy.Log.Lemmas.Inv
namespace Iggy.Log

@[simp] theorem Seg.create_msgs (cfg : Cfg) (start now : Nat) : (Seg.create cfg start now).msgs = [] := rfl
@[simp] theorem Seg.create_start (cfg : Cfg) (start now : Nat) : (Seg.create cfg start now).start = start := rfl
@[simp] theorem Seg.create_sizeBytes (cfg : Cfg) (start now : Nat) :
    (Seg.create cfg start now).sizeBytes = 0 := rfl
@[simp] theorem Seg.create_closed (cfg : Cfg) (start now : Nat) :
    (Seg.create cfg start now).closed = false := rfl

theorem Seg.create_inv (cfg : Cfg) (start now : Nat) (hseg : 0 < cfg.segSize) :
    (Seg.create cfg start now).Inv cfg where
  batches := by simp [Seg.create]
  offsets := by simp [consecutiveFrom]
  idxFile := rfl
  idxCache := by simp [Seg.create]
  pos := rfl
  size := rfl
  cur := by simp [Seg.create, Seg.msgs, Seg.accMsgs]
  accHdr := by simp [Seg.create]
  endTs := by simp
  closed := by simp
  open_ := by intro _; left; simpa using hseg

theorem Seg.acc_of_accMsgs_ne_nil {s : Seg} (hne : s.accMsgs ≠ []) :
    ∃ a, s.acc = some a ∧ a.msgs ≠ [] ∧ s.accMsgs = a.msgs := by
  cases ha : s.acc with
  | none => simp [Seg.accMsgs, ha] at hne
  | some a => exact ⟨a, rfl, Seg.accMsgs_of_acc ha ▸ hne, Seg.accMsgs_of_acc ha⟩

theorem Acc.append_of_ne_nil (a : Acc) (bs : Nat) {items : List Msg} (hne : items ≠ []) :
    a.append bs items =
      { base := if a.msgs.isEmpty then (items.head?.map Msg.off).getD 0 else a.base
        cur := (items.getLast hne).off
        curTs := (items.getLast hne).ts
        size := a.size + bs
        msgs := a.msgs ++ items } := by
  simp only [Acc.append, List.getLast?_eq_some_getLast hne]

section appendBatch
variable {s : Seg} {bs : Nat} {msgs : List Msg}

@[simp] theorem Seg.appendBatch_start : (s.appendBatch bs msgs).start = s.start := rfl
@[simp] theorem Seg.appendBatch_closed : (s.appendBatch bs msgs).closed = s.closed := rfl
@[simp] theorem Seg.appendBatch_log : (s.appendBatch bs msgs).log = s.log := rfl
@[simp] theorem Seg.appendBatch_idxFile : (s.appendBatch bs msgs).idxFile = s.idxFile := rfl
@[simp] theorem Seg.appendBatch_idxCache : (s.appendBatch bs msgs).idxCache = s.idxCache := rfl
@[simp] theorem Seg.appendBatch_lastIdxPos : (s.appendBatch bs msgs).lastIdxPos = s.lastIdxPos := rfl
@[simp] theorem Seg.appendBatch_endOff : (s.appendBatch bs msgs).endOff = s.endOff := rfl
@[simp] theorem Seg.appendBatch_sizeBytes : (s.appendBatch bs msgs).sizeBytes = s.sizeBytes + bs := rfl

/-- the accumulator a segment hands to `Acc.append` -/
def Seg.acc0 (s : Seg) (msgs : List Msg) : Acc :=
  match s.acc with
  | some a => a
  | none => Acc.new ((msgs.head?.map Msg.off).getD 0)

theorem Seg.acc0_msgs : (s.acc0 msgs).msgs = s.accMsgs := by
  unfold Seg.acc0 Seg.accMsgs; cases s.acc <;> rfl

theorem Seg.appendBatch_acc : (s.appendBatch bs msgs).acc = some ((s.acc0 msgs).append bs msgs) := rfl
theorem Seg.appendBatch_cur' : (s.appendBatch bs msgs).cur = ((s.acc0 msgs).append bs msgs).cur := rfl
theorem Seg.appendBatch_endTs' : (s.appendBatch bs msgs).endTs = ((s.acc0 msgs).append bs msgs).curTs := rfl

theorem Seg.appendBatch_accMsgs (hne : msgs ≠ []) :
    (s.appendBatch bs msgs).accMsgs = s.accMsgs ++ msgs := by
  simp [Seg.accMsgs, Seg.appendBatch_acc, Acc.append_of_ne_nil _ _ hne, Seg.acc0_msgs]

theorem Seg.appendBatch_msgs (hne : msgs ≠ []) : (s.appendBatch bs msgs).msgs = s.msgs ++ msgs := by
  simp [Seg.msgs, Seg.appendBatch_accMsgs hne]

theorem Seg.appendBatch_inv {cfg : Cfg} {now : Nat} (h : s.Inv cfg) (hopen : s.closed = false)
    (hne : msgs ≠ []) (hc : consecutiveFrom (s.start + s.msgs.length) msgs)
    (hold : ∀ m ∈ s.msgs, m.ts ≤ now) (hnew : ∀ m ∈ msgs, m.ts = now) :
    (s.appendBatch (sumSizes msgs) msgs).Inv cfg := by
  have hl := List.getLast?_eq_some_getLast hne
  have hlast := hc.getLast hl
  have hlen : 0 < msgs.length := List.length_pos_iff.2 hne
  have hmsgs := Seg.appendBatch_msgs (s := s) (bs := sumSizes msgs) hne
  have hacc := Acc.append_of_ne_nil (s.acc0 msgs) (sumSizes msgs) hne
  exact
    { h with
      offsets := by rw [hmsgs]; exact consecutiveFrom_append_iff.2 ⟨h.offsets, hc⟩
      size := by
        simp only [Seg.appendBatch_sizeBytes, Seg.appendBatch_log, Seg.appendBatch_accMsgs hne,
          sumSizes_append, h.size]; omega
      cur := by
        rw [Seg.appendBatch_cur', hacc, hmsgs, Seg.appendBatch_start]
        simp only [List.length_append]; omega
      accHdr := by
        intro a ha _
        rw [Seg.appendBatch_acc, hacc] at ha
        cases ha
        refine ⟨?_, by simp [List.getLast?_append, hl], by simp [List.getLast?_append, hl]⟩
        simp only [Seg.acc0_msgs, List.head?_append]
        by_cases he : s.accMsgs = []
        · obtain ⟨m, r, rfl⟩ := List.exists_cons_of_ne_nil hne
          simp [he]
        · -- the buffer was not empty: its first message and base offset stay
          obtain ⟨a, hsa, hane, hm⟩ := Seg.acc_of_accMsgs_ne_nil he
          have hb : (s.acc0 msgs).base = a.base := by simp [Seg.acc0, hsa]
          have hd := (h.accHdr a hsa hane).1
          rw [List.head?_eq_some_head hane] at hd
          simpa [hb, hm, hane, List.head?_eq_some_head hane] using hd
      endTs := by
        rw [hmsgs, Seg.appendBatch_endTs', hacc]
        show ∀ m ∈ s.msgs ++ msgs, m.ts ≤ (msgs.getLast hne).ts
        have := hnew _ (List.getLast_mem hne)
        intro m hm
        rcases List.mem_append.1 hm with hm | hm
        · have := hold m hm; omega
        · have := hnew m hm; omega
      closed := by simp [hopen]
      open_ := by intro _; right; simp [Seg.appendBatch_accMsgs hne, hne] }

end appendBatch

/-- the index record `persist` writes -/
def Seg.pIdx (s : Seg) (a : Acc) : Idx := { rel := a.cur - s.start, pos := s.lastIdxPos, ts := a.curTs }

/-- the batch `persist` writes -/
def Acc.pBatch (a : Acc) : Batch :=
  { base := a.base, lastDelta := a.cur - a.base, maxTs := (a.msgs.getLast?.map (·.ts)).getD 0,
    msgs := a.msgs }

/-- the segment after `persist` wrote the batch; `cl`, `eo`, `ac`: closed flag, end offset and
accumulator, which depend on the `is_full` test -/
def Seg.written (s : Seg) (a : Acc) (cl : Bool) (eo : Nat) (ac : Option Acc) : Seg :=
  { s with
    idxCache := s.idxCache.map (· ++ [s.pIdx a])
    acc := ac
    log := s.log ++ [a.pBatch]
    idxFile := s.idxFile ++ [s.pIdx a]
    lastIdxPos := s.lastIdxPos + a.pBatch.bytes
    sizeBytes := s.sizeBytes + 24
    endOff := eo
    closed := cl }

section persist
variable {cfg : Cfg} {s : Seg}

theorem Seg.persist_of_accMsgs_nil (h : s.accMsgs = []) :
    s.persist cfg = ({ s with acc := none }, 0) := by
  unfold Seg.persist; split
  · next ha => cases s; simp_all
  · next a ha =>
    have : a.msgs = [] := by simpa [Seg.accMsgs, ha] using h
    simp [this]

theorem Seg.persist_some {a : Acc} (ha : s.acc = some a) (hne : a.msgs ≠ []) :
    s.persist cfg =
      if cfg.segSize ≤ s.sizeBytes + 24 then (s.written a true s.cur none, 24)
      else (s.written a s.closed s.endOff (some (Acc.new 0)), 24) := by
  have he : a.msgs.isEmpty = false := by simpa using hne
  unfold Seg.persist
  simp only [ha, he, Bool.false_eq_true, ↓reduceIte, Seg.isFull, decide_eq_true_eq]
  rfl

theorem Seg.persist_cases (cfg : Cfg) (s : Seg) :
    (s.accMsgs = [] ∧ s.persist cfg = ({ s with acc := none }, 0)) ∨
      ∃ a, s.acc = some a ∧ a.msgs ≠ [] ∧
        ((cfg.segSize ≤ s.sizeBytes + 24 ∧ s.persist cfg = (s.written a true s.cur none, 24)) ∨
          (¬ cfg.segSize ≤ s.sizeBytes + 24 ∧
            s.persist cfg = (s.written a s.closed s.endOff (some (Acc.new 0)), 24))) := by
  by_cases hnil : s.accMsgs = []
  · exact Or.inl ⟨hnil, Seg.persist_of_accMsgs_nil hnil⟩
  · obtain ⟨a, ha, hne, -⟩ := Seg.acc_of_accMsgs_ne_nil hnil
    refine Or.inr ⟨a, ha, hne, ?_⟩
    rw [Seg.persist_some ha hne]
    by_cases hfull : cfg.segSize ≤ s.sizeBytes + 24
    · exact Or.inl ⟨hfull, if_pos hfull⟩
    · exact Or.inr ⟨hfull, if_neg hfull⟩

theorem Seg.persist_fields :
    (s.persist cfg).1.start = s.start ∧ (s.persist cfg).1.cur = s.cur ∧ (s.persist cfg).1.endTs = s.endTs ∧
      (s.persist cfg).1.sizeBytes = s.sizeBytes + (s.persist cfg).2 ∧ (s.persist cfg).1.accMsgs = [] := by
  rcases s.persist_cases cfg with ⟨-, h⟩ | ⟨a, -, -, ⟨-, h⟩ | ⟨-, h⟩⟩ <;> rw [h] <;>
    exact ⟨rfl, rfl, rfl, rfl, rfl⟩

theorem Seg.persist_start : (s.persist cfg).1.start = s.start := Seg.persist_fields.1
theorem Seg.persist_cur : (s.persist cfg).1.cur = s.cur := Seg.persist_fields.2.1
theorem Seg.persist_endTs : (s.persist cfg).1.endTs = s.endTs := Seg.persist_fields.2.2.1
theorem Seg.persist_sizeBytes : (s.persist cfg).1.sizeBytes = s.sizeBytes + (s.persist cfg).2 :=
  Seg.persist_fields.2.2.2.1
theorem Seg.persist_accMsgs : (s.persist cfg).1.accMsgs = [] := Seg.persist_fields.2.2.2.2

theorem Seg.persist_closed_of_closed (hc : s.closed = true) : (s.persist cfg).1.closed = true := by
  rcases s.persist_cases cfg with ⟨-, h⟩ | ⟨a, -, -, ⟨-, h⟩ | ⟨-, h⟩⟩ <;> rw [h]
  · exact hc
  · rfl
  · exact hc

theorem Seg.written_msgs {a : Acc} (ha : s.acc = some a) (cl : Bool) (eo : Nat) {ac : Option Acc}
    (hac : ac = none ∨ ac = some (Acc.new 0)) : (s.written a cl eo ac).msgs = s.msgs := by
  have : (s.written a cl eo ac).accMsgs = [] := by rcases hac with rfl | rfl <;> rfl
  rw [Seg.msgs, this]
  simp [Seg.written, Acc.pBatch, Seg.msgs, Seg.accMsgs, ha]

theorem Seg.msgs_drop_acc (hnil : s.accMsgs = []) : ({ s with acc := none } : Seg).msgs = s.msgs := by
  show batchesMsgs s.log ++ [] = batchesMsgs s.log ++ s.accMsgs
  rw [hnil]

theorem Seg.persist_msgs : (s.persist cfg).1.msgs = s.msgs := by
  rcases s.persist_cases cfg with ⟨hnil, h⟩ | ⟨a, ha, -, ⟨-, h⟩ | ⟨-, h⟩⟩ <;> rw [h]
  · exact Seg.msgs_drop_acc hnil
  · exact Seg.written_msgs ha _ _ (Or.inl rfl)
  · exact Seg.written_msgs ha _ _ (Or.inr rfl)

theorem Seg.Inv.drop_acc (h : s.Inv cfg) (hnil : s.accMsgs = []) : ({ s with acc := none } : Seg).Inv cfg := by
  have hmsgs := Seg.msgs_drop_acc hnil
  exact
    { h with
      offsets := by rw [hmsgs]; exact h.offsets
      size := by
        show s.sizeBytes = logBytes s.log + sumSizes []
        rw [h.size, hnil]
      cur := by rw [hmsgs]; exact h.cur
      accHdr := by simp
      endTs := by rw [hmsgs]; exact h.endTs
      closed := fun hc => ⟨rfl, (h.closed hc).2⟩
      open_ := fun hc => (h.open_ hc).imp_right (absurd hnil) }

theorem Seg.written_inv {a : Acc} (h : s.Inv cfg) (ha : s.acc = some a) (hne : a.msgs ≠ [])
    (cl : Bool) (eo : Nat) (ac : Option Acc) (hac : ac = none ∨ ac = some (Acc.new 0))
    (hcl : cl = true → ac = none ∧ eo = s.cur ∧ cfg.segSize ≤ s.sizeBytes + 24)
    (hop : cl = false → s.sizeBytes + 24 < cfg.segSize) :
    (s.written a cl eo ac).Inv cfg := by
  have haccm := Seg.accMsgs_of_acc ha
  obtain ⟨hh, hlo, hlt⟩ := h.accHdr a ha hne
  obtain ⟨hbase, hcur⟩ := h.acc_bounds ha hne
  have hlastm := List.getLast?_eq_some_getLast hne
  have hble : a.base ≤ a.cur := by have := List.length_pos_iff.2 hne; omega
  have haccm' : (s.written a cl eo ac).accMsgs = [] := by
    rcases hac with rfl | rfl <;> rfl
  have hmsgs' := Seg.written_msgs ha cl eo hac
  exact
    { batches := by
        intro b hb
        simp only [Seg.written, List.mem_append, List.mem_singleton] at hb
        rcases hb with hb | rfl
        · exact h.batches b hb
        · exact ⟨hne, hh, hlo.trans (congrArg some (Nat.add_sub_cancel' hble).symm),
            by simp [Acc.pBatch, hlastm]⟩
      offsets := by rw [hmsgs']; exact h.offsets
      idxFile := by
        simp only [Seg.written, mkIdx_append, h.idxFile, mkIdx, Nat.zero_add, h.pos]
        congr 2
        simp only [Seg.pIdx, Acc.pBatch, hlt, Option.getD_some, h.pos, Nat.add_sub_cancel' hble]
      idxCache := by
        simp only [Seg.written, h.idxCache]
        split <;> simp
      pos := by simp [Seg.written, h.pos]
      size := by
        rw [haccm']
        have := h.size
        simp [Seg.written, Acc.pBatch, Batch.bytes, haccm] at this ⊢; omega
      cur := by rw [hmsgs']; exact h.cur
      accHdr := by
        intro a' ha' hne'
        rcases hac with rfl | rfl
        · simp [Seg.written] at ha'
        · simp [Seg.written] at ha'; subst ha'; simp [Acc.new] at hne'
      endTs := by rw [hmsgs']; exact h.endTs
      closed := hcl
      open_ := fun hc => Or.inl (hop hc) }

theorem Seg.persist_inv (h : s.Inv cfg) : (s.persist cfg).1.Inv cfg := by
  rcases s.persist_cases cfg with ⟨hnil, he⟩ | ⟨a, ha, hne, ⟨hfull, he⟩ | ⟨hfull, he⟩⟩ <;> rw [he]
  · exact h.drop_acc hnil
  · exact Seg.written_inv h ha hne true s.cur none (Or.inl rfl) (fun _ => ⟨rfl, rfl, hfull⟩) (by simp)
  · have hclosed : s.closed = false := by
      cases hc : s.closed with
      | false => rfl
      | true => have := (h.closed hc).1; simp [ha] at this
    exact Seg.written_inv h ha hne s.closed s.endOff (some (Acc.new 0)) (Or.inr rfl)
      (by simp [hclosed]) (fun _ => by omega)

end persist

end Iggy.Log

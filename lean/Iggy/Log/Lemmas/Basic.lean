/-
Basic list-level facts about the storage model: consecutive offsets, timestamp order, sizes,
index construction, `updLast` / `insertSorted`, `Seg.msgs`, the segment `chain`, and the association lists of
stored consumer offsets (`lookup`, `insertKV`, `eraseK`).
-/
import Iggy.Log.Abs
namespace Iggy.Log

theorem consecutiveFrom_append_iff {c : Nat} {l1 l2 : List Msg} :
    consecutiveFrom c (l1 ++ l2) ↔ consecutiveFrom c l1 ∧ consecutiveFrom (c + l1.length) l2 := by
  induction l1 generalizing c with
  | nil => simp [consecutiveFrom]
  | cons m l ih =>
    simp only [List.cons_append, consecutiveFrom, ih, List.length_cons]
    have : c + 1 + l.length = c + (l.length + 1) := by omega
    rw [this]; exact and_assoc.symm

theorem consecutiveFrom.bounds {c : Nat} {l : List Msg} (h : consecutiveFrom c l) :
    ∀ m ∈ l, c ≤ m.off ∧ m.off < c + l.length := by
  induction l generalizing c with
  | nil => simp
  | cons a l ih =>
    intro m hm
    rcases List.mem_cons.1 hm with rfl | hm
    · have := h.1; simp; omega
    · have := ih h.2 m hm; simp; omega

theorem consecutiveFrom.head {c : Nat} {l : List Msg} (h : consecutiveFrom c l) {m : Msg}
    (hm : l.head? = some m) : m.off = c := by
  cases l with
  | nil => simp at hm
  | cons a l => simp at hm; subst hm; exact h.1

theorem consecutiveFrom.getLast {c : Nat} {l : List Msg} (h : consecutiveFrom c l) {m : Msg}
    (hm : l.getLast? = some m) : m.off + 1 = c + l.length := by
  obtain ⟨ys, rfl⟩ := List.getLast?_eq_some_iff.1 hm
  have := (consecutiveFrom_append_iff.1 h).2
  simp [consecutiveFrom] at this ⊢; omega

theorem consecutiveFrom.drop {c : Nat} {l : List Msg} (h : consecutiveFrom c l) (n : Nat) :
    consecutiveFrom (c + n) (l.drop n) := by
  induction n generalizing c l with
  | zero => simpa using h
  | succ n ih =>
    cases l with
    | nil => simp [consecutiveFrom]
    | cons a l =>
      have := ih h.2
      simpa [Nat.add_assoc, Nat.add_comm 1 n] using this

theorem consecutiveFrom.pairwise {c : Nat} {l : List Msg} (h : consecutiveFrom c l) :
    l.Pairwise (fun a b => a.off < b.off) := by
  induction l generalizing c with
  | nil => simp
  | cons a l ih =>
    refine List.pairwise_cons.2 ⟨?_, ih h.2⟩
    intro b hb
    have := h.2.bounds b hb
    have := h.1
    omega

theorem consecutiveFrom_drop (lo : Nat) (l : List Msg) (n : Nat) (h : consecutiveFrom lo l) :
    consecutiveFrom (lo + min n l.length) (l.drop n) := by
  rcases Nat.le_total n l.length with hn | hn
  · rw [Nat.min_eq_left hn]; exact h.drop n
  · rw [List.drop_eq_nil_of_le hn]; trivial

theorem consecutiveFrom_map_off (lo : Nat) (l : List Msg) (h : consecutiveFrom lo l) :
    l.map (·.off) = List.range' lo l.length := by
  induction l generalizing lo with
  | nil => rfl
  | cons m rest ih =>
    simp only [List.map_cons, List.length_cons, List.range'_succ]
    rw [h.1, ih (lo + 1) h.2]

theorem tsSorted_iff_pairwise {l : List Msg} : tsSorted l ↔ l.Pairwise (fun a b => a.ts ≤ b.ts) := by
  induction l with
  | nil => simp [tsSorted]
  | cons a l ih =>
    cases l with
    | nil => simp [tsSorted]
    | cons b l =>
      rw [tsSorted, ih, List.pairwise_cons (a := a)]
      -- along a sorted tail, `a` is below the head iff it is below everything
      refine and_congr_left fun h => ⟨fun hab x hx => ?_, fun h' => h' b (by simp)⟩
      rcases List.mem_cons.1 hx with rfl | hx
      · exact hab
      · exact Nat.le_trans hab ((List.pairwise_cons.1 h).1 x hx)

theorem tsSorted.sublist {l l' : List Msg} (h : tsSorted l) (hs : l'.Sublist l) : tsSorted l' :=
  tsSorted_iff_pairwise.2 ((tsSorted_iff_pairwise.1 h).sublist hs)

theorem tsSorted_append_now {l r : List Msg} {now : Nat} (hl : tsSorted l) (hle : ∀ m ∈ l, m.ts ≤ now)
    (hr : ∀ m ∈ r, m.ts = now) : tsSorted (l ++ r) := by
  rw [tsSorted_iff_pairwise] at hl ⊢
  refine List.pairwise_append.2 ⟨hl, List.pairwise_of_forall_mem_list ?_, ?_⟩
  · intro a ha b hb; rw [hr a ha, hr b hb]; exact Nat.le_refl _
  · intro a ha b hb; rw [hr b hb]; exact hle a ha

@[simp] theorem sumSizes_nil : sumSizes [] = 0 := rfl
@[simp] theorem sumSizes_cons (m : Msg) (l : List Msg) : sumSizes (m :: l) = m.size + sumSizes l := by
  simp [sumSizes]
@[simp] theorem sumSizes_append (l1 l2 : List Msg) : sumSizes (l1 ++ l2) = sumSizes l1 + sumSizes l2 := by
  simp [sumSizes]

@[simp] theorem logBytes_nil : logBytes [] = 0 := rfl
@[simp] theorem logBytes_cons (b : Batch) (l : List Batch) : logBytes (b :: l) = b.bytes + logBytes l := by
  simp [logBytes]
@[simp] theorem logBytes_append (l1 l2 : List Batch) : logBytes (l1 ++ l2) = logBytes l1 + logBytes l2 := by
  simp [logBytes]

theorem Batch.bytes_pos (b : Batch) : 24 ≤ b.bytes := by simp [Batch.bytes]

theorem logBytes_eq_zero {l : List Batch} (h : logBytes l = 0) : l = [] := by
  cases l with
  | nil => rfl
  | cons b l => have := b.bytes_pos; simp at h; omega

theorem sumSizes_eq_zero {l : List Msg} (hs : ∀ m ∈ l, 0 < m.size) (h : sumSizes l = 0) : l = [] := by
  cases l with
  | nil => rfl
  | cons m l => have := hs m (by simp); simp at h; omega

@[simp] theorem batchesMsgs_nil : batchesMsgs [] = [] := rfl
@[simp] theorem batchesMsgs_cons (b : Batch) (l : List Batch) :
    batchesMsgs (b :: l) = b.msgs ++ batchesMsgs l := by simp [batchesMsgs]
@[simp] theorem batchesMsgs_append (l1 l2 : List Batch) :
    batchesMsgs (l1 ++ l2) = batchesMsgs l1 ++ batchesMsgs l2 := by simp [batchesMsgs]

theorem batchesMsgs_ne_nil {l : List Batch} (hwf : ∀ b ∈ l, b.WF) (h : l ≠ []) : batchesMsgs l ≠ [] := by
  cases l with
  | nil => exact absurd rfl h
  | cons b l => have := (hwf b (by simp)).1; simp [this]

@[simp] theorem mkIdx_nil (start pos : Nat) : mkIdx start pos [] = [] := rfl

theorem mkIdx_append (start pos : Nat) (l1 l2 : List Batch) :
    mkIdx start pos (l1 ++ l2) = mkIdx start pos l1 ++ mkIdx start (pos + logBytes l1) l2 := by
  induction l1 generalizing pos with
  | nil => simp
  | cons b l ih => simp [mkIdx, ih, Nat.add_assoc]

theorem mkIdx_snoc (st pos : Nat) (l : List Batch) (b : Batch) :
    mkIdx st pos (l ++ [b]) =
      mkIdx st pos l ++ [{ rel := b.base + b.lastDelta - st, pos := pos + logBytes l, ts := b.maxTs }] := by
  rw [mkIdx_append]; rfl

@[simp] theorem updLast_snoc (l : List Seg) (s : Seg) (f : Seg → Seg) :
    updLast (l ++ [s]) f = l ++ [f s] := by
  induction l with
  | nil => rfl
  | cons a l ih =>
    cases l with
    | nil => rfl
    | cons b l => simp only [List.cons_append] at ih ⊢; rw [updLast, ih]; simp

theorem insertSorted_snoc (t : Seg) (l : List Seg) (h : ∀ s ∈ l, s.start ≤ t.start) :
    insertSorted t l = l ++ [t] := by
  induction l with
  | nil => rfl
  | cons a l ih =>
    have ha := h a (by simp)
    have : ¬ t.start < a.start := by omega
    simp [insertSorted, this, ih (fun s hs => h s (by simp [hs]))]

theorem Seg.accMsgs_of_acc {s : Seg} {a : Acc} (h : s.acc = some a) : s.accMsgs = a.msgs := by
  unfold Seg.accMsgs; rw [h]

theorem Seg.msgs_def (s : Seg) : s.msgs = batchesMsgs s.log ++ s.accMsgs := rfl

theorem chain_ne_nil {l : List Seg} {n : Nat} (h : chain l n) : l ≠ [] := by
  cases l with
  | nil => exact h.elim
  | cons _ _ => simp

theorem chain_snoc {init : List Seg} {last : Seg} {n : Nat} :
    chain (init ++ [last]) n ↔
      (init = [] ∨ (chain init last.start ∧ ∀ s ∈ init, s.closed = true)) ∧
        last.start + last.msgs.length = n := by
  induction init with
  | nil => simp [chain]
  | cons a l ih =>
    cases l with
    | nil => simp [chain, and_assoc]
    | cons b l =>
      simp only [List.cons_append] at ih ⊢
      simp [chain, ih, and_assoc]
      intros; assumption

theorem forall_mem_snoc {α} {P : α → Prop} {l : List α} {a : α} :
    (∀ x ∈ l ++ [a], P x) ↔ (∀ x ∈ l, P x) ∧ P a := by
  rw [List.forall_mem_append, List.forall_mem_singleton]

theorem exists_snoc_of_ne_nil {α} {l : List α} (h : l ≠ []) : ∃ init last, l = init ++ [last] :=
  ⟨l.dropLast, l.getLast h, (List.dropLast_concat_getLast h).symm⟩

theorem chain_cons_cons {s t : Seg} {rest : List Seg} {n : Nat} :
    chain (s :: t :: rest) n ↔
      s.start + s.msgs.length = t.start ∧ s.closed = true ∧ chain (t :: rest) n := Iff.rfl

theorem chain_singleton {s : Seg} {n : Nat} : chain [s] n ↔ s.start + s.msgs.length = n := Iff.rfl

theorem chain_map {f : Seg → Seg} {l : List Seg} {n : Nat}
    (hf : ∀ s ∈ l, (f s).start = s.start ∧ (f s).msgs = s.msgs ∧ (s.closed = true → (f s).closed = true))
    (h : chain l n) : chain (l.map f) n := by
  induction l with
  | nil => exact h.elim
  | cons a l ih =>
    obtain ⟨⟨hst, hm, hc⟩, hl⟩ := List.forall_mem_cons.1 hf
    cases l with
    | nil =>
      simp only [List.map_cons, List.map_nil, chain_singleton] at h ⊢
      rw [hst, hm]; exact h
    | cons b r =>
      simp only [List.map_cons] at ih ⊢
      rw [chain_cons_cons] at h ⊢
      rw [hst, hm, (hl b (by simp)).1]
      exact ⟨h.1, hc h.2.1, ih hl h.2.2⟩

theorem chain_append_right {pre post : List Seg} {n : Nat} (h : chain (pre ++ post) n) (hp : post ≠ []) :
    chain post n := by
  induction pre with
  | nil => simpa using h
  | cons a l ih =>
    cases hl : l ++ post with
    | nil => simp at hl; exact absurd hl.2 hp
    | cons b r =>
      simp only [List.cons_append, hl] at h
      exact ih (hl ▸ h.2.2)

theorem find?_filter_ne (l : List (Nat × Nat)) (k k' : Nat) (h : k' ≠ k) :
    (l.filter (fun e => e.1 ≠ k)).find? (fun e => e.1 = k') = l.find? (fun e => e.1 = k') := by
  rw [List.find?_filter]
  congr; funext e
  by_cases he : e.1 = k' <;> simp [he, h]

theorem lookup_insertKV (l : List (Nat × Nat)) (k k' v : Nat) :
    lookup (insertKV l k v) k' = if k' = k then some v else lookup l k' := by
  unfold lookup insertKV
  by_cases h : k' = k
  · simp [h]
  · rw [List.find?_cons_of_neg (by simpa using Ne.symm h), find?_filter_ne l k k' h, if_neg h]

theorem lookup_insertKV_same (l : List (Nat × Nat)) (k v : Nat) : lookup (insertKV l k v) k = some v := by
  rw [lookup_insertKV, if_pos rfl]

theorem lookup_eraseK (l : List (Nat × Nat)) (k k' : Nat) :
    lookup (eraseK l k) k' = if k' = k then none else lookup l k' := by
  unfold lookup eraseK
  by_cases h : k' = k
  · simp [h]
  · rw [find?_filter_ne l k k' h, if_neg h]

end Iggy.Log

/-
Segment-level read theorem: under `Seg.Inv`, `Seg.getByOffset off count` returns exactly the segment's
messages whose offsets lie in `[max off start, max off start + count)`, whichever tier (disk through
the cached index, disk through the index file, in-memory accumulator) holds them.
-/
import Iggy.Log.Lemmas.SegOps
import Iggy.Log.Lemmas.Range
namespace Iggy.Log

variable {cfg : Cfg} {s : Seg}

theorem Acc.getByOffset_eq {a : Acc} (hp : a.msgs.Pairwise (fun x y => x.off ≤ y.off)) (lo hi : Nat) :
    a.getByOffset lo hi = a.msgs.filter (fun m => lo ≤ m.off ∧ m.off ≤ hi) := by
  unfold Acc.getByOffset
  rw [dropWhile_lt_eq_filter hp, takeWhile_le_eq_filter (hp.filter _), List.filter_filter]
  exact List.filter_congr fun m _ => by simp [Bool.and_comm]

theorem readRange_skip (pre rest : List Batch) (pos ep : Nat) :
    readRange (pre ++ rest) pos (pos + logBytes pre) ep =
      readRange rest (pos + logBytes pre) (pos + logBytes pre) ep := by
  induction pre generalizing pos with
  | nil => simp
  | cons b l ih =>
    have hb := b.bytes_pos
    have hlt : pos < pos + (b.bytes + logBytes l) := by omega
    simp only [List.cons_append, readRange, logBytes_cons, hlt, ↓reduceIte]
    have := ih (pos + b.bytes)
    simpa [Nat.add_assoc] using this

theorem readRange_take (mid : List Batch) (b : Batch) (rest : List Batch) {pos sp ep : Nat}
    (hsp : sp ≤ pos) (hmid : pos + logBytes mid ≤ ep) (hb : rest = [] ∨ ep ≤ pos + logBytes mid) :
    readRange (mid ++ b :: rest) pos sp ep = mid ++ [b] := by
  induction mid generalizing pos with
  | nil =>
    rw [List.nil_append, readRange, if_neg (by omega)]
    split
    · rfl
    · rw [hb.resolve_right (by simpa using by omega)]; rfl
  | cons x mid ih =>
    have := x.bytes_pos
    rw [logBytes_cons] at hmid hb
    rw [List.cons_append, readRange, if_neg (by omega), if_neg (by omega),
      ih (by omega) (by omega) (hb.imp_right (by omega))]
    rfl

theorem mkIdx_ne_nil (start pos : Nat) {l : List Batch} (h : l ≠ []) : mkIdx start pos l ≠ [] := by
  cases l with
  | nil => exact absurd rfl h
  | cons b l => rw [mkIdx]; exact List.cons_ne_nil _ _

theorem firstGe_cons (e : Idx) (idx : List Idx) (r : Nat) :
    firstGe (e :: idx) r = if r ≤ e.rel then some e else firstGe idx r := by
  by_cases h : r ≤ e.rel <;> simp [firstGe, h]

theorem firstGe_mkIdx (start rel : Nat) (l : List Batch) (pos : Nat) :
    match firstGe (mkIdx start pos l) rel with
    | none => ∀ x ∈ l, x.base + x.lastDelta - start < rel
    | some e => ∃ pre b rest, l = pre ++ b :: rest ∧ e.pos = pos + logBytes pre ∧
        (∀ x ∈ pre, x.base + x.lastDelta - start < rel) ∧ rel ≤ b.base + b.lastDelta - start := by
  induction l generalizing pos with
  | nil => simp [firstGe]
  | cons b l ih =>
    rw [mkIdx, firstGe_cons]
    by_cases hb : rel ≤ b.base + b.lastDelta - start
    · rw [if_pos hb]; exact ⟨[], b, l, rfl, rfl, by simp, hb⟩
    · rw [if_neg hb]
      have := ih (pos + b.bytes)
      generalize firstGe (mkIdx start (pos + b.bytes) l) rel = o at this ⊢
      cases o with
      | none => exact List.forall_mem_cons.2 ⟨Nat.lt_of_not_le hb, this⟩
      | some e =>
        obtain ⟨pre, b', rest, rfl, h1, h2, h3⟩ := this
        exact ⟨b :: pre, b', rest, rfl, by simp [h1, Nat.add_assoc],
          List.forall_mem_cons.2 ⟨Nat.lt_of_not_le hb, h2⟩, h3⟩

/-- the index entry at which a disk read stops (`rangeCached` and `rangeFile` alike) -/
def endIdx (idx : List Idx) (r : Nat) : Idx := (firstGe idx r).getD (idx.getLast?.getD Idx.zero)

theorem firstGe_mkIdx_append (start r : Nat) {pre : List Batch} (tail : List Batch)
    (hpre : ∀ x ∈ pre, x.base + x.lastDelta - start < r) (pos : Nat) :
    firstGe (mkIdx start pos (pre ++ tail)) r = firstGe (mkIdx start (pos + logBytes pre) tail) r := by
  have h := firstGe_mkIdx start r pre pos
  rw [mkIdx_append, firstGe, List.find?_append, ← firstGe]
  generalize firstGe (mkIdx start pos pre) r = o at h ⊢
  cases o with
  | none => rfl
  | some e =>
    obtain ⟨p1, b, p2, rfl, -, -, hb⟩ := h
    exact absurd (hpre b (by simp)) (Nat.not_lt.2 hb)

theorem endIdx_mkIdx (start r : Nat) {pre tail : List Batch} (htail : tail ≠ [])
    (hpre : ∀ x ∈ pre, x.base + x.lastDelta - start < r) (pos : Nat) :
    ∃ mid b rest, tail = mid ++ b :: rest ∧
      (endIdx (mkIdx start pos (pre ++ tail)) r).pos = pos + logBytes pre + logBytes mid ∧
      (rest = [] ∨ r ≤ b.base + b.lastDelta - start) := by
  unfold endIdx
  rw [firstGe_mkIdx_append start r tail hpre]
  have h := firstGe_mkIdx start r tail (pos + logBytes pre)
  generalize firstGe (mkIdx start (pos + logBytes pre) tail) r = o at h ⊢
  cases o with
  | some e =>
    obtain ⟨mid, b, rest, rfl, hp, -, hb⟩ := h
    exact ⟨mid, b, rest, rfl, hp, Or.inr hb⟩
  | none =>
    obtain ⟨init, b, rfl⟩ := exists_snoc_of_ne_nil htail
    rw [← List.append_assoc, mkIdx_append, List.getLast?_append]
    exact ⟨init, b, [], rfl, by simp [mkIdx, Nat.add_assoc], Or.inl rfl⟩

theorem rangeCached_eq (idx : List Idx) (a b : Nat) :
    rangeCached idx a b = (firstGe idx a).map fun s => (s, endIdx idx b) := by
  unfold rangeCached endIdx
  cases ha : firstGe idx a with
  | none => rfl
  | some s =>
    cases firstGe idx b with
    | some e => rfl
    | none =>
      rw [List.getLast?_eq_some_getLast (List.ne_nil_of_mem (List.mem_of_find?_eq_some ha))]
      rfl

theorem rangeFile_eq (idx : List Idx) (a b : Nat) :
    rangeFile idx a b =
      if idx.isEmpty then none else some ((firstGe idx a).getD Idx.zero, endIdx idx b) := rfl

theorem Batch.WF.last {b : Batch} (h : b.WF) :
    ∃ x, b.msgs.getLast? = some x ∧ x.off = b.base + b.lastDelta ∧ x.ts = b.maxTs := by
  obtain ⟨-, -, h3, h4⟩ := h
  cases hl : b.msgs.getLast? with
  | none => simp [hl] at h3
  | some x => exact ⟨x, rfl, by simpa [hl] using h3, by simpa [hl] using h4⟩

theorem mem_batchesMsgs {l : List Batch} {m : Msg} : m ∈ batchesMsgs l ↔ ∃ b ∈ l, m ∈ b.msgs := by
  simp only [batchesMsgs, List.mem_flatten, List.mem_map]
  exact ⟨fun ⟨_, ⟨b, hb, e⟩, hm⟩ => ⟨b, hb, e ▸ hm⟩, fun ⟨b, hb, hm⟩ => ⟨_, ⟨b, hb, rfl⟩, hm⟩⟩

theorem log_offsets {c : Nat} {pre rest : List Batch} {b : Batch} (hwf : b.WF)
    (hc : consecutiveFrom c (batchesMsgs (pre ++ b :: rest))) :
    c ≤ b.base + b.lastDelta ∧ (∀ m ∈ b.msgs, m.off ≤ b.base + b.lastDelta) ∧
      ∀ m ∈ batchesMsgs rest, b.base + b.lastDelta < m.off := by
  obtain ⟨x, hx, hxo, -⟩ := hwf.last
  have hxb := List.mem_of_getLast? hx
  have hp := hc.pairwise
  rw [batchesMsgs_append, batchesMsgs_cons] at hp
  obtain ⟨hb, -, hbr⟩ := List.pairwise_append.1 (List.pairwise_append.1 hp).2.1
  refine ⟨hxo ▸ (hc.bounds x (by simp [hxb])).1, fun m hm => ?_, fun m hm => hxo ▸ hbr x hxb m hm⟩
  rcases rel_getLast hb hx m hm with rfl | h <;> omega

theorem filter_batches_below {c start lo hi : Nat} {l pre : List Batch} (hwf : ∀ b ∈ l, b.WF)
    (hc : consecutiveFrom c (batchesMsgs l)) (hsub : ∀ x ∈ pre, x ∈ l)
    (hpre : ∀ x ∈ pre, x.base + x.lastDelta - start < lo - start) :
    (batchesMsgs pre).filter (fun m => lo ≤ m.off ∧ m.off ≤ hi) = [] := by
  refine List.filter_eq_nil_iff.2 fun m hm => ?_
  obtain ⟨x, hx, hmx⟩ := mem_batchesMsgs.1 hm
  obtain ⟨p1, p2, rfl⟩ := List.append_of_mem (hsub x hx)
  have := (log_offsets (hwf x (by simp)) hc).2.1 m hmx
  have := hpre x hx
  simp; omega

/-- a read of the log between the byte positions the index gives for `lo` and for `hi` loses no stored
message of `[lo, hi]`.  The start position is written as `rangeFile` has it (`load_index_range_impl`
reads from byte 0 when it finds no start entry: `getD Idx.zero`); `rangeCached` reads from the same
position whenever it reads at all. -/
theorem filter_read {start lo hi : Nat} (hlh : lo ≤ hi) {l : List Batch} (hne : l ≠ [])
    (hwf : ∀ b ∈ l, b.WF) (hc : consecutiveFrom start (batchesMsgs l)) :
    (batchesMsgs (readRange l 0 ((firstGe (mkIdx start 0 l) (lo - start)).getD Idx.zero).pos
        (endIdx (mkIdx start 0 l) (hi - start)).pos)).filter (fun m => lo ≤ m.off ∧ m.off ≤ hi) =
      (batchesMsgs l).filter (fun m => lo ≤ m.off ∧ m.off ≤ hi) := by
  -- the read starts at a batch before which every batch ends below `lo`
  obtain ⟨pre, tail, rfl, hp, hpre, htail⟩ : ∃ pre tail, l = pre ++ tail ∧
      ((firstGe (mkIdx start 0 l) (lo - start)).getD Idx.zero).pos = logBytes pre ∧
      (∀ x ∈ pre, x.base + x.lastDelta - start < lo - start) ∧ tail ≠ [] := by
    have hst := firstGe_mkIdx start (lo - start) l 0
    generalize firstGe (mkIdx start 0 l) (lo - start) = o at hst ⊢
    cases o with
    | none => exact ⟨[], l, rfl, rfl, by simp, hne⟩
    | some st =>
      obtain ⟨pre, b, rest, rfl, hp, hpre, -⟩ := hst
      exact ⟨pre, b :: rest, rfl, by rw [Option.getD_some, hp, Nat.zero_add], hpre, by simp⟩
  have h1 := filter_batches_below (hi := hi) hwf hc (fun x hx => by simp [hx]) hpre
  -- and ends with the first batch that reaches `hi`, or with the last batch
  obtain ⟨mid, b, rest, rfl, hpos, hb⟩ := endIdx_mkIdx start (hi - start) htail
    (fun x hx => Nat.lt_of_lt_of_le (hpre x hx) (Nat.sub_le_sub_right hlh start)) 0
  have hskip := readRange_skip pre (mid ++ b :: rest) 0 (0 + logBytes pre + logBytes mid)
  rw [Nat.zero_add] at hpos hskip
  rw [hp, hpos, hskip,
    readRange_take mid b rest (Nat.le_refl _) (Nat.le_refl _) (Or.inr (Nat.le_refl _))]
  have h2 : (batchesMsgs rest).filter (fun m => lo ≤ m.off ∧ m.off ≤ hi) = [] := by
    refine List.filter_eq_nil_iff.2 fun m hm => ?_
    rw [← List.append_assoc] at hc
    obtain ⟨f1, -, f3⟩ := log_offsets (hwf b (by simp)) hc
    rcases hb with rfl | hb
    · simp at hm
    · rw [decide_eq_true_eq]
      exact fun h => Nat.lt_irrefl _ (Nat.lt_of_lt_of_le (f3 m hm)
        (Nat.le_trans h.2 ((Nat.sub_le_sub_iff_right f1).1 hb)))
  simp only [batchesMsgs_append, batchesMsgs_cons, List.filter_append, h1, h2, batchesMsgs_nil,
    List.nil_append, List.append_nil]

theorem Seg.loadFromDisk_eq (h : s.Inv cfg) (lo hi : Nat) :
    s.loadFromDisk lo hi = (batchesMsgs s.log).filter (fun m => lo ≤ m.off ∧ m.off ≤ hi) := by
  unfold Seg.loadFromDisk
  split
  · exact (List.filter_eq_nil_iff.2 fun m _ => by simp; omega).symm
  · next hlh =>
    have hread := fun hne => filter_read (Nat.le_of_not_lt hlh) hne h.batches h.log_consecutive
    rw [h.idxCache, h.idxFile]
    cases cfg.idxCacheOn with
    | true =>
      -- `load_highest_lower_bound_index`: no start entry, no read; then nothing stored reaches `lo`
      have hst := firstGe_mkIdx s.start (lo - s.start) s.log 0
      rw [if_pos rfl]
      dsimp only
      rw [rangeCached_eq]
      cases hf : firstGe (mkIdx s.start 0 s.log) (lo - s.start) with
      | none => exact (filter_batches_below h.batches h.log_consecutive (fun _ hx => hx) (hf ▸ hst)).symm
      | some st =>
        have := hread fun hl => by simp [hl, firstGe] at hf
        rwa [hf] at this
    | false =>
      rw [if_neg Bool.false_ne_true]
      dsimp only
      rw [rangeFile_eq]
      by_cases hl : s.log = []
      · rw [hl]; rfl
      · rw [if_neg (by simpa using mkIdx_ne_nil _ _ hl)]
        exact hread hl

theorem filter_interval_congr {l : List Msg} {lo hi lo' hi' : Nat}
    (h : ∀ m ∈ l, (lo' ≤ m.off ∧ m.off ≤ hi') ↔ (lo ≤ m.off ∧ m.off ≤ hi)) :
    l.filter (fun m => lo' ≤ m.off ∧ m.off ≤ hi') = l.filter (fun m => lo ≤ m.off ∧ m.off ≤ hi) :=
  List.filter_congr fun m hm => decide_eq_decide.2 (h m hm)

theorem filter_interval_nil {l : List Msg} {lo hi : Nat} (h : ∀ m ∈ l, m.off < lo ∨ hi < m.off) :
    l.filter (fun m => lo ≤ m.off ∧ m.off ≤ hi) = [] :=
  List.filter_eq_nil_iff.2 fun m hm => by have := h m hm; simp; omega

theorem Seg.Inv.acc_offsets (h : s.Inv cfg) {a : Acc} (ha : s.acc = some a)
    (hne : a.msgs ≠ []) :
    (∀ m ∈ batchesMsgs s.log, m.off < a.base) ∧ (∀ m ∈ a.msgs, a.base ≤ m.off ∧ m.off ≤ a.cur) ∧
      a.msgs.Pairwise (fun x y => x.off ≤ y.off) := by
  have hc := h.acc_consecutive
  rw [Seg.accMsgs_of_acc ha] at hc
  obtain ⟨e1, e2⟩ := h.acc_bounds ha hne
  exact ⟨fun m hm => by have := h.log_consecutive.bounds m hm; omega,
    fun m hm => by have := hc.bounds m hm; omega, hc.pairwise.imp Nat.le_of_lt⟩

/-- the three cases of `get_messages_by_offset` (buffer only, disk only, split), on lists -/
theorem tiers_eq {D A : List Msg} {base cur : Nat} (fd : ∀ m ∈ D, m.off < base)
    (fa : ∀ m ∈ A, base ≤ m.off ∧ m.off ≤ cur) (lo hi : Nat) :
    (if base ≤ lo ∧ hi ≤ cur then A.filter (fun m => lo ≤ m.off ∧ m.off ≤ hi)
      else if hi < base then D.filter (fun m => lo ≤ m.off ∧ m.off ≤ hi)
      else (if lo < base then D.filter (fun m => lo ≤ m.off ∧ m.off ≤ base - 1) else []) ++
        A.filter (fun m => max lo base ≤ m.off ∧ m.off ≤ hi)) =
      D.filter (fun m => lo ≤ m.off ∧ m.off ≤ hi) ++ A.filter (fun m => lo ≤ m.off ∧ m.off ≤ hi) := by
  by_cases h1 : base ≤ lo ∧ hi ≤ cur
  · rw [if_pos h1, filter_interval_nil (l := D) fun m hm => by have := fd m hm; omega, List.nil_append]
  · rw [if_neg h1]
    by_cases h2 : hi < base
    · rw [if_pos h2, filter_interval_nil (l := A) fun m hm => by have := fa m hm; omega,
        List.append_nil]
    · rw [if_neg h2]
      congr 1
      · by_cases h3 : lo < base
        · rw [if_pos h3]
          exact filter_interval_congr fun m hm => by have := fd m hm; omega
        · rw [if_neg h3]
          exact (filter_interval_nil fun m hm => by have := fd m hm; omega).symm
      · exact filter_interval_congr fun m hm => by have := fa m hm; omega

theorem Seg.getByOffset_eq (h : s.Inv cfg) (off count : Nat) :
    s.getByOffset off count =
      s.msgs.filter (fun m => max off s.start ≤ m.off ∧ m.off < max off s.start + count) := by
  unfold Seg.getByOffset
  by_cases hc : count = 0
  · rw [if_pos hc]
    exact (List.filter_eq_nil_iff.2 fun m _ => by simp; omega).symm
  · have hoff : (if off < s.start then s.start else off) = max off s.start := by
      split
      · next h => rw [Nat.max_eq_right (Nat.le_of_lt h)]
      · next h => rw [Nat.max_eq_left (Nat.le_of_not_lt h)]
    obtain ⟨n, rfl⟩ := Nat.exists_eq_succ_of_ne_zero hc
    rw [if_neg hc, hoff, Nat.succ_sub_one]
    simp only [Nat.add_succ, Nat.lt_succ_iff]
    -- from here on only the bounds `[lo, hi]` of the read matter
    generalize max off s.start = lo
    generalize lo + n = hi
    rw [Seg.msgs_def, List.filter_append]
    cases ha : s.acc with
    | none => simp [Seg.accMsgs, ha, Seg.loadFromDisk_eq h]
    | some a =>
      have hacc := Seg.accMsgs_of_acc ha
      by_cases hne : a.msgs = []
      · simp [hacc, hne, Seg.loadFromDisk_eq h]
      · obtain ⟨fd, fa, fp⟩ := Seg.Inv.acc_offsets h ha hne
        simp only [hacc, List.isEmpty_iff, hne, if_false, Acc.getByOffset_eq fp, Seg.loadFromDisk_eq h]
        exact tiers_eq fd fa lo hi

theorem Seg.getByOffset_scan (h : s.Inv cfg) (off n : Nat) :
    s.getByOffset off n = (s.msgs.filter (fun m => off ≤ m.off)).take n :=
  (Seg.getByOffset_eq h off n).trans (h.offsets.filter_window off n)

end Iggy.Log

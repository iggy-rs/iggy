/- C20 helpers: the producer -/
import Iggy.Sdk.Spec
namespace Iggy.Sdk
variable {Id Part M : Type}

theorem chunks_flatten {α : Type} (n : Nat) (l : List α) : (chunks n l).flatten = l := by
  fun_induction chunks n l with
  | case1 l h he => simp_all
  | case2 l h he => simp
  | case3 l h ih => simp [ih]

theorem chunks_bounds {α : Type} {n : Nat} (l : List α) (hn : 0 < n) :
    ∀ c ∈ chunks n l, c ≠ [] ∧ c.length ≤ n := by
  fun_induction chunks n l with
  | case1 l h he => simp
  | case2 l h he =>
    have : l = [] := by rcases h with h | h; omega; exact h
    simp_all
  | case3 l h ih =>
    intro c hc
    rcases List.mem_cons.mp hc with rfl | hc
    · exact ⟨fun e => h (List.take_eq_nil_iff.mp e), List.length_take_le n l⟩
    · exact ih c hc

theorem path_spec (c : PCfg Id Part) (hb : c.batch ≠ some 0) (s t : Id) (msgs : List M) (p : Option Part) :
    ((c.path s t msgs p).map (·.msgs)).flatten = msgs ∧
    (∀ r ∈ c.path s t msgs p, r.stream = s ∧ r.topic = t ∧ r.part = p.getD (c.partitioning.getD c.dflt) ∧
      r.msgs ≠ [] ∧ r.msgs.length ≤ c.batch.getD MAX_BATCH_SIZE) ∧
    (msgs = [] → c.path s t msgs p = []) := by
  have hn : 0 < c.batch.getD MAX_BATCH_SIZE := by
    cases hc : c.batch with
    | none => simp [MAX_BATCH_SIZE]
    | some b => simp; rw [hc] at hb; simp at hb; omega
  unfold PCfg.path
  by_cases he : msgs.isEmpty
  · simp at he; subst he; simp
  · simp only [he, Bool.false_eq_true, ↓reduceIte, List.map_map]
    refine ⟨?_, ?_, ?_⟩
    · have : ((fun r : Request Id Part M => r.msgs) ∘ fun ch => ⟨s, t, p.getD (c.partitioning.getD c.dflt), ch⟩) = id := by
        funext ch; rfl
      rw [this, List.map_id, chunks_flatten]
    · intro r hr
      simp only [List.mem_map] at hr
      obtain ⟨ch, hch, rfl⟩ := hr
      have := chunks_bounds msgs hn ch hch
      exact ⟨rfl, rfl, rfl, this.1, this.2⟩
    · intro h; subst h; simp at he

theorem producer_delivers (c : PCfg Id Part) (hb : c.batch ≠ some 0) (call : Call Id Part M) :
    ((c.requests call).map (·.msgs)).flatten = call.msgs ∧
    (∀ r ∈ c.requests call, r.stream = (call.addr c).1 ∧ r.topic = (call.addr c).2 ∧ r.part = call.part c ∧
      r.msgs ≠ [] ∧ r.msgs.length ≤ c.batch.getD MAX_BATCH_SIZE) ∧
    (call.msgs = [] → c.requests call = []) := by
  cases call with
  | send msgs => exact path_spec c hb _ _ msgs none
  | sendOne m => exact path_spec c hb _ _ [m] none
  | sendWithPartitioning msgs p => cases p <;> exact path_spec c hb _ _ msgs _
  | sendTo s t msgs p => cases p <;> exact path_spec c hb _ _ msgs _
end Iggy.Sdk

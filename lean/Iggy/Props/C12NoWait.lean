/-
C12 (no-wait confirmation) — a poll never returns messages from beyond a batch that is still on its
way to the log.

Under no-wait confirmation a batch handed to the persister task is, until written, in neither the
buffer nor the log file; later batches may already be in the buffer, and the message cache may show
any accepted message.  What the read tiers can see is therefore a SUB-SEQUENCE `seen` of the accepted
messages `acc` (order kept, arbitrary holes).  `Iggy/Log/NoWait.lean` mirrors the post-processing of
`Partition::get_messages_by_offset` / `get_messages_by_timestamp` (fixes 5922a8c, a7c30e4, 959ee6e);
here: for EVERY gap-free `acc`, EVERY sub-sequence `seen`, every request, the fixed answer is a prefix
of the specification's answer (`SPart.pollOffset` / `SPart.pollTimestamp` on `msgs = acc`), it is the
specification's answer once nothing is in flight, and each guard of the fixes is necessary.

Hypotheses: `consecutiveFrom lo acc` (C01; `lo` = first retained offset = `segments[0].start_offset`),
`tsSorted acc` (timestamp polls only), `seen.Sublist acc`.  `cur` (`current_offset`) is unconstrained
in the safety theorems and an upper bound of the accepted offsets in the completeness theorems.
-/
import Iggy.Log.Lemmas.NoWait
namespace Iggy.Props.C12NoWait
open Iggy.Log Iggy.Log.NoWait

/-- Safety, by offset: whatever subset of the accepted messages is visible, the answer is a PREFIX of
the specification's answer — genuine messages, consecutive offsets, starting exactly at the requested
(clamped) offset, or nothing yet.  A consumer that continues after the last returned offset never
skips a message. -/
theorem byOffset_prefix {lo : Nat} {acc seen : List Msg} (hc : consecutiveFrom lo acc)
    (hs : seen.Sublist acc) (cur start count : Nat) :
    visibleByOffset seen lo cur start count <+: specAnswerByOffset acc start count := by
  rw [visibleByOffset_eq_run]
  split
  · exact List.nil_prefix
  · refine run_prefix_of_sublist ?_ (specAnswerByOffset_consecutive hc start count)
    rw [specAnswerByOffset_eq_filter hc]
    exact hs.filter _

/-- the same statement on any specification state `p` (`SPart.pollOffset` itself) -/
theorem byOffset_prefix_spec (p : SPart) {lo : Nat} {seen : List Msg} (hc : consecutiveFrom lo p.msgs)
    (hs : seen.Sublist p.msgs) (cur start count : Nat) :
    visibleByOffset seen lo cur start count <+: p.pollOffset start count :=
  byOffset_prefix hc hs cur start count

theorem byOffset_mem {lo : Nat} {acc seen : List Msg} (hc : consecutiveFrom lo acc)
    (hs : seen.Sublist acc) (cur start count : Nat) :
    ∀ m ∈ visibleByOffset seen lo cur start count,
      m ∈ acc ∧ max start lo ≤ m.off ∧ m.off < max start lo + count := by
  intro m hm
  have := (byOffset_prefix hc hs cur start count).subset hm
  rw [specAnswerByOffset_eq_filter hc, List.mem_filter] at this
  simpa using this

/-- Liveness, by offset: once the persister is idle (everything accepted is visible) the answer is
exactly the specification's answer. -/
theorem byOffset_complete_when_settled {lo : Nat} {acc : List Msg} (hc : consecutiveFrom lo acc)
    {cur : Nat} (hcur : ∀ m ∈ acc, m.off ≤ cur) (start count : Nat) :
    visibleByOffset acc lo cur start count = specAnswerByOffset acc start count := by
  rw [visibleByOffset_eq_run]
  split
  · rename_i h
    rw [specAnswerByOffset_eq_filter hc]
    symm
    rw [List.filter_eq_nil_iff]
    intro m hm
    have := hcur m hm
    simp only [decide_eq_true_eq]
    omega
  · have : rawByOffset acc lo start count = specAnswerByOffset acc start count := by
      rw [specAnswerByOffset_eq_filter hc]; rfl
    rw [this]
    exact run_of_consecutive (specAnswerByOffset_consecutive hc start count)

/-- Monotonicity, by offset: when more becomes visible the answer only grows (the earlier answer is a
prefix of the later one) — a poll never has to be taken back. -/
theorem byOffset_monotone {lo : Nat} {acc seen₁ seen₂ : List Msg} (hc : consecutiveFrom lo acc)
    (h₁ : seen₁.Sublist seen₂) (h₂ : seen₂.Sublist acc) (cur start count : Nat) :
    visibleByOffset seen₁ lo cur start count <+: visibleByOffset seen₂ lo cur start count := by
  rw [visibleByOffset_eq_run, visibleByOffset_eq_run]
  split
  · exact List.nil_prefix
  · refine run_mono (h₁.filter _) ?_ (specAnswerByOffset_consecutive hc start count)
    rw [specAnswerByOffset_eq_filter hc]
    exact h₂.filter _

theorem visibleByTs_nil {seen look : List Msg} {lo cur t count : Nat} (hraw : rawByTs seen t count = []) :
    visibleByTs seen look lo cur t count = [] := by
  simp [visibleByTs, hraw, contigPrefix]

theorem visibleByTs_cons {seen look : List Msg} {lo cur t count : Nat} {f : Msg} {r : List Msg}
    (hraw : rawByTs seen t count = f :: r) :
    visibleByTs seen look lo cur t count =
      if lo < f.off ∧
          ((visibleByOffset look lo cur (f.off - 1) 1).head?.all (fun p => decide (t ≤ p.ts))) = true
      then [] else run f.off (rawByTs seen t count) := by
  simp only [visibleByTs, head?_contigPrefix, hraw, List.head?_cons]
  rw [contigPrefix_cons_eq_run]

theorem rawByTs_head {seen : List Msg} {t count : Nat} {f : Msg} {r : List Msg}
    (hraw : rawByTs seen t count = f :: r) : f ∈ seen ∧ t ≤ f.ts := by
  have : f ∈ seen.filter (fun m => t ≤ m.ts) :=
    List.mem_of_mem_take (hraw ▸ List.mem_cons_self : f ∈ rawByTs seen t count)
  simpa using this

/-- what the guard of 959ee6e establishes: every accepted message before the first returned one is
older than the requested timestamp -/
theorem before_first_older {lo : Nat} {acc look : List Msg} (hc : consecutiveFrom lo acc)
    (hts : tsSorted acc) (hl : look.Sublist acc) {cur t : Nat} {f : Msg}
    (hg : ¬ (lo < f.off ∧
      ((visibleByOffset look lo cur (f.off - 1) 1).head?.all (fun p => decide (t ≤ p.ts))) = true)) :
    ∀ m ∈ acc, m.off < f.off → m.ts < t := by
  intro m hm hlt
  have hlo : lo < f.off := by have := (hc.bounds m hm).1; omega
  cases hh : (visibleByOffset look lo cur (f.off - 1) 1).head? with
  | none => simp [hlo, hh] at hg
  | some p =>
    have hp := byOffset_mem hc hl cur (f.off - 1) 1 p (List.mem_of_head? hh)
    have := ts_le_of_off_le hc hts hm hp.1
      (Nat.le_trans (Nat.le_sub_one_of_lt hlt) (Nat.le_trans (Nat.le_max_left _ _) hp.2.1))
    simp [hlo, hh] at hg
    omega

theorem matches_consecutive {lo : Nat} {acc : List Msg} (hc : consecutiveFrom lo acc)
    (hts : tsSorted acc) {t : Nat} {f : Msg} (hf : f ∈ acc) (hft : t ≤ f.ts)
    (hbefore : ∀ m ∈ acc, m.off < f.off → m.ts < t) :
    consecutiveFrom f.off (acc.filter (fun m => t ≤ m.ts)) := by
  rw [filter_ts_eq_filter_off hc hts hf hft hbefore]
  exact filter_ge_consecutive hc (hc.bounds f hf).1

theorem head_of_sublist {s : Nat} {a b : List Msg} (ha : consecutiveFrom s a) (hb : b.Sublist a)
    {f : Msg} (hf : f ∈ b) (hs : f.off = s) : ∃ r, b = f :: r := by
  cases b with
  | nil => cases hf
  | cons g r =>
    have := (ha.bounds g (hb.subset List.mem_cons_self)).1
    rcases List.mem_cons.1 hf with rfl | hfr
    · exact ⟨r, rfl⟩
    · have := (List.pairwise_cons.1 (ha.pairwise.sublist hb)).1 f hfr; omega

/-- Safety, by timestamp: whatever the timestamp scan sees (`seen`) and whatever the predecessor
look-up sees (`look`: the same tiers plus the cache), the answer is a PREFIX of the specification's
answer — it starts at the FIRST accepted message with `timestamp ≥ t` and has no hole — or is empty. -/
theorem byTs_prefix {lo : Nat} {acc seen look : List Msg} (hc : consecutiveFrom lo acc)
    (hts : tsSorted acc) (hs : seen.Sublist acc) (hl : look.Sublist acc) (cur t count : Nat) :
    visibleByTs seen look lo cur t count <+: specAnswerByTs acc t count := by
  cases hraw : rawByTs seen t count with
  | nil => rw [visibleByTs_nil hraw]; exact List.nil_prefix
  | cons f r =>
    rw [visibleByTs_cons hraw]
    split
    · exact List.nil_prefix
    · next hg =>
      obtain ⟨hfs, hft⟩ := rawByTs_head hraw
      have hcons := matches_consecutive hc hts (hs.subset hfs) hft (before_first_older hc hts hl hg)
      rw [rawByTs, run_take]
      exact take_prefix_take (run_prefix_of_sublist (hs.filter _) hcons) _

/-- the case the server without a cache is in: scan and look-up see the same messages -/
theorem byTs_prefix_same {lo : Nat} {acc seen : List Msg} (hc : consecutiveFrom lo acc)
    (hts : tsSorted acc) (hs : seen.Sublist acc) (cur t count : Nat) :
    visibleByTs seen seen lo cur t count <+: specAnswerByTs acc t count :=
  byTs_prefix hc hts hs hs cur t count

/-- the same statement on any specification state `p` (`SPart.pollTimestamp` itself) -/
theorem byTs_prefix_spec (p : SPart) {lo : Nat} {seen look : List Msg} (hc : consecutiveFrom lo p.msgs)
    (hts : tsSorted p.msgs) (hs : seen.Sublist p.msgs) (hl : look.Sublist p.msgs) (cur t count : Nat) :
    visibleByTs seen look lo cur t count <+: p.pollTimestamp t count :=
  byTs_prefix hc hts hs hl cur t count

/-- Liveness, by timestamp: once the persister is idle the answer is exactly the specification's
answer (the predecessor check never fires on a gap-free, timestamp-ordered log). -/
theorem byTs_complete_when_settled {lo : Nat} {acc : List Msg} (hc : consecutiveFrom lo acc)
    (hts : tsSorted acc) {cur : Nat} (hcur : ∀ m ∈ acc, m.off ≤ cur) (t count : Nat) :
    visibleByTs acc acc lo cur t count = specAnswerByTs acc t count := by
  show _ = rawByTs acc t count
  cases hraw : rawByTs acc t count with
  | nil => exact visibleByTs_nil hraw
  | cons f r =>
    obtain ⟨hfa, hft⟩ := rawByTs_head hraw
    -- `f` is the first match among the accepted messages
    obtain ⟨r', hfil⟩ : ∃ r', acc.filter (fun m => t ≤ m.ts) = f :: r' := by
      have : (rawByTs acc t count).head? = _ := List.head?_take
      rw [hraw] at this
      split at this
      · cases this
      · exact List.head?_eq_some_iff.1 this.symm
    have hbefore : ∀ m ∈ acc, m.off < f.off → m.ts < t := by
      intro m hm hlt
      apply Nat.lt_of_not_le
      intro hmt
      have hpw := hfil ▸ hc.pairwise.filter (fun m : Msg => decide (t ≤ m.ts))
      have : m ∈ f :: r' := by rw [← hfil, List.mem_filter]; exact ⟨hm, by simpa using hmt⟩
      rcases List.mem_cons.1 this with rfl | hmr
      · omega
      · have := (List.pairwise_cons.1 hpw).1 m hmr; omega
    rw [visibleByTs_cons hraw, hraw, if_neg,
      run_of_consecutive (hraw ▸ (matches_consecutive hc hts hfa hft hbefore).take count)]
    -- the predecessor of `f` is visible and older than `t`
    rintro ⟨hlo, hall⟩
    have hk : lo ≤ f.off - 1 := Nat.le_sub_one_of_lt hlo
    obtain ⟨p, hpa, hpo⟩ := exists_off hc hfa hk (Nat.sub_le _ _)
    rw [byOffset_complete_when_settled hc hcur, specAnswerByOffset_eq_filter hc, Nat.max_eq_left hk]
      at hall
    have hpin : p ∈ acc.filter (fun m => f.off - 1 ≤ m.off ∧ m.off < f.off - 1 + 1) :=
      List.mem_filter.2 ⟨hpa, by simp [hpo]⟩
    cases hh : (acc.filter (fun m => f.off - 1 ≤ m.off ∧ m.off < f.off - 1 + 1)).head? with
    | none => rw [List.head?_eq_none_iff.1 hh] at hpin; cases hpin
    | some q =>
      rw [hh] at hall
      have hq := List.mem_filter.1 (List.mem_of_head? hh)
      have := hbefore q hq.1 (by have := hq.2; simp only [decide_eq_true_eq] at this; omega)
      simp at hall
      omega

/-- Monotonicity, by timestamp: when more becomes visible (to the scan and to the look-up) the answer
only grows — a non-empty answer is never taken back or re-based on a different first message. -/
theorem byTs_monotone {lo : Nat} {acc seen₁ seen₂ look₁ look₂ : List Msg} (hc : consecutiveFrom lo acc)
    (hts : tsSorted acc) (hs₁ : seen₁.Sublist seen₂) (hs₂ : seen₂.Sublist acc)
    (hl₁ : look₁.Sublist look₂) (hl₂ : look₂.Sublist acc) (cur t count : Nat) :
    visibleByTs seen₁ look₁ lo cur t count <+: visibleByTs seen₂ look₂ lo cur t count := by
  cases hraw₁ : rawByTs seen₁ t count with
  | nil => rw [visibleByTs_nil hraw₁]; exact List.nil_prefix
  | cons f r₁ =>
    rw [visibleByTs_cons hraw₁]
    split
    · exact List.nil_prefix
    · next hg₁ =>
      obtain ⟨hfs, hft⟩ := rawByTs_head hraw₁
      have hcons := matches_consecutive hc hts ((hs₁.trans hs₂).subset hfs) hft
        (before_first_older hc hts (hl₁.trans hl₂) hg₁)
      -- the later scan finds the same first message
      obtain ⟨r₂', hF₂⟩ := head_of_sublist hcons (hs₂.filter _)
        (List.mem_filter.2 ⟨hs₁.subset hfs, by simpa using hft⟩) rfl
      obtain ⟨n, rfl⟩ : ∃ n, count = n + 1 := by
        cases count with
        | zero => simp [rawByTs] at hraw₁
        | succ n => exact ⟨n, rfl⟩
      have hraw₂ : rawByTs seen₂ t (n + 1) = f :: r₂'.take n := by simp [rawByTs, hF₂]
      rw [visibleByTs_cons hraw₂, if_neg]
      · simp only [rawByTs, run_take]
        exact take_prefix_take (run_mono (hs₁.filter _) (hs₂.filter _) hcons) _
      · -- the later look-up finds the same predecessor
        rintro ⟨hlo, hall₂⟩
        refine hg₁ ⟨hlo, ?_⟩
        obtain ⟨zs, hzs⟩ := byOffset_monotone hc hl₁ hl₂ cur (f.off - 1) 1
        cases hv : visibleByOffset look₁ lo cur (f.off - 1) 1 with
        | nil => rfl
        | cons p ys => rw [← hzs, hv] at hall₂; exact hall₂

/-! ## each guard is necessary (replays of the three findings), and non-vacuity -/

def mk (off ts : Nat) : Msg := { off := off, id := off, ts := ts, size := 1, tag := 0 }

/-- accepted: offsets 0..4, timestamps 100, 110, … -/
def acc5 : List Msg := [mk 0 100, mk 1 110, mk 2 120, mk 3 130, mk 4 140]
/-- the batch (2,3) is on its way to the log: the tiers show 0,1 (file) and 4 (buffer) -/
def seen014 : List Msg := [mk 0 100, mk 1 110, mk 4 140]

example : consecutiveFrom 0 acc5 ∧ tsSorted acc5 ∧ seen014.Sublist acc5 := by decide

/-- 5922a8c replay: without the "first message must be at the requested offset" check,
`poll offset 3 count 5` answers `[4]`: not a prefix of the specification's `[3, 4]` — a consumer
polling `next` would skip 3 for good. -/
theorem first_check_necessary :
    (byOffsetNoFirstCheck seen014 0 4 3 5).map (·.off) = [4] ∧
    (specAnswerByOffset acc5 3 5).map (·.off) = [3, 4] ∧
    ¬ (byOffsetNoFirstCheck seen014 0 4 3 5 <+: specAnswerByOffset acc5 3 5) ∧
    visibleByOffset seen014 0 4 3 5 = [] := by decide

/-- 5922a8c replay: without the truncation at the first discontinuity, `poll offset 0 count 10`
answers `[0, 1, 4]` (a hole): not a prefix of `[0, 1, 2, 3, 4]`; the fixed code answers `[0, 1]`. -/
theorem truncation_necessary :
    (byOffsetNoTruncate seen014 0 4 0 10).map (·.off) = [0, 1, 4] ∧
    ¬ (byOffsetNoTruncate seen014 0 4 0 10 <+: specAnswerByOffset acc5 0 10) ∧
    (visibleByOffset seen014 0 4 0 10).map (·.off) = [0, 1] := by decide

/-- a7c30e4 replay (there: tiers show …,12 and 28, the request matches from 13 on, answer `[28]`):
without the predecessor check a poll by timestamp 120 (first match: offset 2, in flight) answers `[4]`:
not a prefix of the specification's `[2, 3, 4]`; the fixed code answers nothing yet. -/
theorem pred_check_necessary :
    (byTsNoPredCheck seen014 120 10).map (·.off) = [4] ∧
    (specAnswerByTs acc5 120 10).map (·.off) = [2, 3, 4] ∧
    ¬ (byTsNoPredCheck seen014 120 10 <+: specAnswerByTs acc5 120 10) ∧
    visibleByTs seen014 seen014 0 4 120 10 = [] := by decide

/-- 959ee6e replay (there: `poll ts count 1` answered offset 38 instead of 27): cache on, so the
predecessor look-up sees every accepted message while the scan sees only file and buffer.  Request:
timestamp 120 (first match: offset 2, in flight).  The scan finds offset 4 first; its predecessor 3 IS
visible (through the cache), so the a7c30e4 check passes and the answer is `[4]` — yet 3 is itself a
match (130 ≥ 120).  Requiring the predecessor to be OLDER than the request rejects it. -/
theorem pred_older_necessary :
    (byTsPredVisibleOnly seen014 acc5 0 4 120 1).map (·.off) = [4] ∧
    (specAnswerByTs acc5 120 1).map (·.off) = [2] ∧
    ¬ (byTsPredVisibleOnly seen014 acc5 0 4 120 1 <+: specAnswerByTs acc5 120 1) ∧
    visibleByTs seen014 acc5 0 4 120 1 = [] := by decide

/-! non-vacuity: the fixed paths do answer — partially while a batch is in flight, fully afterwards -/
example : (visibleByOffset seen014 0 4 0 10).map (·.off) = [0, 1] := by decide
example : (visibleByOffset seen014 0 4 4 10).map (·.off) = [4] := by decide
example : (visibleByOffset acc5 0 4 3 5).map (·.off) = [3, 4] := by decide
example : (visibleByOffset acc5 0 4 0 10) = specAnswerByOffset acc5 0 10 := by decide
example : (visibleByTs seen014 seen014 0 4 105 10).map (·.off) = [1] := by decide
example : (visibleByTs seen014 seen014 0 4 135 10).map (·.off) = [] := by decide
example : (visibleByTs seen014 acc5 0 4 135 10).map (·.off) = [4] := by decide
example : (visibleByTs acc5 acc5 0 4 120 2).map (·.off) = [2, 3] := by decide
example : (visibleByTs acc5 acc5 0 4 0 10) = specAnswerByTs acc5 0 10 := by decide
/-- after retention (first retained offset 2) a poll below it is clamped, in flight or not -/
example : (visibleByOffset [mk 2 120, mk 4 140] 2 4 0 10).map (·.off) = [2] := by decide

end Iggy.Props.C12NoWait

/-
Lemmas about the authentication layer (`Iggy.Sys.stepA0`, Iggy/Sys/Auth.lean): token validity and the user
table with tokens filtered (`keepToks`: what the clean-up and a restart do); the user table as a finite map
with its invariant `ASys.UWF`; one lemma `stepA0_<op>_ok` per state-changing request that can be refused
(unless `Refused` it met its conditions and `stepA0` equals the stated result), `stepA0_cleanPats`,
`stepA0_restart_*` and `stepA0_core` for the others; `stepA0_edit`: what a request can do to the user table
(`Edit`), which the invariant and root's permissions survive; logins against a table whose tokens were
filtered (`login_keepToks`, `loginPat_keepToks`); histories (`runA`, `outsA`); the demo server of the examples.
-/
import Iggy.Sys.Auth
import Iggy.Sys.Catalog.Assoc
namespace Iggy.Sys
open Iggy.Log Iggy.Perm

def Tok.validAt (now : Nat) (tk : Tok) : Bool :=
  match tk.expiry with
  | some x => decide (now < x)
  | none => true

def Tok.expiredAt (now : Nat) (tk : Tok) : Bool :=
  match tk.expiry with
  | some x => decide (x ≤ now)
  | none => false

theorem Tok.validAt_iff {now : Nat} {tk : Tok} : tk.validAt now = true ↔ ∀ x, tk.expiry = some x → now < x := by
  unfold Tok.validAt
  cases tk.expiry with
  | none => simp
  | some x => simp

theorem Tok.expiredAt_iff {now : Nat} {tk : Tok} : tk.expiredAt now = true ↔ ∃ x, tk.expiry = some x ∧ x ≤ now := by
  unfold Tok.expiredAt
  cases tk.expiry with
  | none => simp
  | some x => simp

theorem Tok.expiredAt_eq_not_validAt (now : Nat) (tk : Tok) : tk.expiredAt now = !tk.validAt now := by
  unfold Tok.expiredAt Tok.validAt
  cases tk.expiry with
  | none => rfl
  | some x => by_cases h : now < x <;> simp [h] <;> omega

def User.keepToks (p : Tok → Bool) (u : User) : User := { u with tokens := u.tokens.filter p }

def keepToks (p : Tok → Bool) (us : List (Nat × User)) : List (Nat × User) :=
  mapE (fun _ u => u.keepToks p) us

@[simp] theorem User.keepToks_id (p : Tok → Bool) (u : User) : (u.keepToks p).id = u.id := rfl
@[simp] theorem User.keepToks_name (p : Tok → Bool) (u : User) : (u.keepToks p).name = u.name := rfl
@[simp] theorem User.keepToks_pw (p : Tok → Bool) (u : User) : (u.keepToks p).pw = u.pw := rfl
@[simp] theorem User.keepToks_active (p : Tok → Bool) (u : User) : (u.keepToks p).active = u.active := rfl
@[simp] theorem User.keepToks_perms (p : Tok → Bool) (u : User) : (u.keepToks p).perms = u.perms := rfl
@[simp] theorem User.keepToks_tokens (p : Tok → Bool) (u : User) : (u.keepToks p).tokens = u.tokens.filter p := rfl

theorem find?_keepToks (p : Tok → Bool) (us : List (Nat × User)) (k : Nat) :
    find? (keepToks p us) k = (find? us k).map (·.keepToks p) := find?_mapE _ us k

/-! ## the invariant of the user table -/

structure UsersWF (us : List (Nat × User)) (tc cur : Nat) : Prop where
  asc : Asc us
  key : ∀ e ∈ us, e.2.id = e.1
  names : ∀ e₁ ∈ us, ∀ e₂ ∈ us, e₁.2.name = e₂.2.name → e₁.1 = e₂.1
  tokOwner : ∀ e₁ ∈ us, ∀ e₂ ∈ us, ∀ t₁ ∈ e₁.2.tokens, ∀ t₂ ∈ e₂.2.tokens, t₁.idx = t₂.idx → e₁.1 = e₂.1
  tokNodup : ∀ e ∈ us, e.2.tokens.Pairwise (fun s t => s.idx ≠ t.idx)
  tokLt : ∀ e ∈ us, ∀ t ∈ e.2.tokens, t.idx < tc
  root : (find? us 1).isSome = true
  /-- so that `createUser`, which stores the new user under the cursor, never overwrites a user -/
  fresh : ∀ e ∈ us, e.1 < cur

def ASys.UWF (a : ASys) : Prop := UsersWF a.users a.tokenCount a.userCursor

theorem pairwise_idx_inj {l : List Tok} (h : l.Pairwise (fun s t => s.idx ≠ t.idx)) {s t : Tok}
    (hs : s ∈ l) (ht : t ∈ l) (he : s.idx = t.idx) : s = t := pairwise_ne_inj h hs ht he

namespace UsersWF
variable {us : List (Nat × User)} {tc cur : Nat}

theorem eq_of_name (h : UsersWF us tc cur) {e₁ e₂ : Nat × User} (h1 : e₁ ∈ us) (h2 : e₂ ∈ us)
    (hn : e₁.2.name = e₂.2.name) : e₁ = e₂ :=
  h.asc.eq_of_key h1 h2 (h.names _ h1 _ h2 hn)

theorem eq_of_tok (h : UsersWF us tc cur) {e₁ e₂ : Nat × User} (h1 : e₁ ∈ us) (h2 : e₂ ∈ us)
    {t₁ t₂ : Tok} (ht1 : t₁ ∈ e₁.2.tokens) (ht2 : t₂ ∈ e₂.2.tokens) (hi : t₁.idx = t₂.idx) :
    e₁ = e₂ ∧ t₁ = t₂ := by
  have he := h.asc.eq_of_key h1 h2 (h.tokOwner _ h1 _ h2 _ ht1 _ ht2 hi)
  subst he
  exact ⟨rfl, pairwise_idx_inj (h.tokNodup _ h1) ht1 ht2 hi⟩

theorem mem_of_find? (_h : UsersWF us tc cur) {k : Nat} {u : User} (hf : find? us k = some u) : (k, u) ∈ us :=
  Iggy.Sys.mem_of_find? hf

theorem id_of_find? (h : UsersWF us tc cur) {k : Nat} {u : User} (hf : find? us k = some u) : u.id = k :=
  h.key _ (Iggy.Sys.mem_of_find? hf)

/-- store `u'` under `k` (a new user, or an overwrite): no other user has its name, and each of its tokens is a
token of the entry it replaces or is numbered in `[tc, tc')` (minted by this request) -/
theorem insert (h : UsersWF us tc cur) {k : Nat} {u' : User} {tc' cur' : Nat} (hid : u'.id = k)
    (hname : ∀ e ∈ us, e.2.name = u'.name → e.1 = k) (htc : tc ≤ tc') (hcur : cur ≤ cur') (hk : k < cur')
    (htok : ∀ t ∈ u'.tokens, (∃ u, (k, u) ∈ us ∧ t ∈ u.tokens) ∨ (tc ≤ t.idx ∧ t.idx < tc'))
    (hnd : u'.tokens.Pairwise (fun s t => s.idx ≠ t.idx)) : UsersWF (insertAsc us k u') tc' cur' := by
  have all {P : Nat × User → Prop} (h0 : P (k, u')) (h1 : ∀ e ∈ us, e.1 ≠ k → P e) :
      ∀ e ∈ insertAsc us k u', P e := fun e he =>
    (mem_insertAsc he).elim (· ▸ h0) fun ⟨he, hne⟩ => h1 e he (hne h.asc)
  have hown : ∀ t ∈ u'.tokens, ∀ e ∈ us, ∀ s ∈ e.2.tokens, t.idx = s.idx → e.1 = k := by
    intro t ht e he s hs hi
    rcases htok t ht with ⟨u, hu, ht'⟩ | ⟨hl, _⟩
    · exact (h.tokOwner _ hu e he t ht' s hs hi).symm
    · have := h.tokLt e he s hs; omega
  exact {
    asc := asc_insertAsc h.asc _ _
    key := all hid fun e he _ => h.key e he
    names := all (all (fun _ => rfl) fun e he _ hn => (hname e he hn.symm).symm) fun e he _ =>
      all (hname e he) fun e' he' _ => h.names e he e' he'
    tokOwner := all (all (fun _ _ _ _ _ => rfl) fun e he _ t ht s hs hi => (hown t ht e he s hs hi).symm)
      fun e he _ => all (fun s hs t ht hi => hown t ht e he s hs hi.symm) fun e' he' _ => h.tokOwner e he e' he'
    tokNodup := all hnd fun e he _ => h.tokNodup e he
    tokLt := all
      (fun t ht => (htok t ht).elim (fun ⟨u, hu, ht'⟩ => Nat.lt_of_lt_of_le (h.tokLt _ hu _ ht') htc) (·.2))
      fun e he _ t ht => Nat.lt_of_lt_of_le (h.tokLt e he t ht) htc
    root := by
      by_cases hk1 : k = 1
      · rw [hk1, find?_insertAsc_self]; rfl
      · rw [find?_insertAsc_ne _ _ (Ne.symm hk1)]; exact h.root
    fresh := all hk fun e he _ => Nat.lt_of_lt_of_le (h.fresh e he) hcur }

theorem erase (h : UsersWF us tc cur) {k : Nat} (hk : k ≠ 1) : UsersWF (erase us k) tc cur :=
  have hmem : ∀ e ∈ Iggy.Sys.erase us k, e ∈ us := fun e he => (mem_erase.1 he).1
  { asc := asc_erase h.asc _
    key := fun e he => h.key e (hmem e he)
    names := fun e1 h1 e2 h2 => h.names e1 (hmem _ h1) e2 (hmem _ h2)
    tokOwner := fun e1 h1 e2 h2 => h.tokOwner e1 (hmem _ h1) e2 (hmem _ h2)
    tokNodup := fun e he => h.tokNodup e (hmem e he)
    tokLt := fun e he => h.tokLt e (hmem e he)
    root := by rw [find?_erase_ne _ (Ne.symm hk)]; exact h.root
    fresh := fun e he => h.fresh e (hmem e he) }

theorem mem_keepToks {p : Tok → Bool} {e : Nat × User} :
    e ∈ Iggy.Sys.keepToks p us ↔ ∃ a ∈ us, e = (a.1, a.2.keepToks p) := mem_mapE

theorem keepToks (h : UsersWF us tc cur) (p : Tok → Bool) {cur' : Nat} (hc : ∀ e ∈ us, e.1 < cur') :
    UsersWF (keepToks p us) tc cur' := by
  have all {P : Nat × User → Prop} (H : ∀ a ∈ us, P (a.1, a.2.keepToks p)) :
      ∀ e ∈ Iggy.Sys.keepToks p us, P e := List.forall_mem_map.2 H
  exact {
    asc := (asc_mapE _ _).2 h.asc
    key := all h.key
    names := all fun a ha => all fun b hb => h.names a ha b hb
    tokOwner := all fun a ha => all fun b hb s hs t ht =>
      h.tokOwner a ha b hb s (List.mem_filter.1 hs).1 t (List.mem_filter.1 ht).1
    tokNodup := all fun a ha => (h.tokNodup a ha).filter _
    tokLt := all fun a ha t ht => h.tokLt a ha t (List.mem_filter.1 ht).1
    root := by rw [find?_keepToks, Option.isSome_map]; exact h.root
    fresh := all hc }

theorem cursor (h : UsersWF us tc cur) {cur' : Nat} (hc : ∀ e ∈ us, e.1 < cur') : UsersWF us tc cur' :=
  { h with fresh := hc }

end UsersWF

/-- the ways a request edits the user table `us`, the token counter `tc` and the id cursor `cur` -/
inductive Edit (us : List (Nat × User)) (tc cur : Nat) : List (Nat × User) → Nat → Nat → Prop
  | same : Edit us tc cur us tc cur
  | add {u : User} : u.id = cur → (∀ e ∈ us, e.2.name ≠ u.name) → u.tokens = [] →
      Edit us tc cur (insertAsc us cur u) tc (cur + 1)
  | put {u u' : User} : find? us u.id = some u → u'.id = u.id → (u.id = 1 → u'.perms = u.perms) →
      (∀ e ∈ us, e.2.name = u'.name → e.1 = u.id) → u'.tokens.Sublist u.tokens →
      Edit us tc cur (insertAsc us u'.id u') tc cur
  | mint {u : User} (tk : Tok) : find? us u.id = some u → tk.idx = tc →
      Edit us tc cur (insertAsc us u.id { u with tokens := u.tokens ++ [tk] }) (tc + 1) cur
  | del {k : Nat} : k ≠ 1 → Edit us tc cur (erase us k) tc cur
  | keep (p : Tok → Bool) {cur' : Nat} : (∀ e ∈ us, e.1 < cur') → Edit us tc cur (keepToks p us) tc cur'

section
variable {us us' : List (Nat × User)} {tc cur tc' cur' : Nat}

theorem UsersWF.edit (h : UsersWF us tc cur) (e : Edit us tc cur us' tc' cur') : UsersWF us' tc' cur' := by
  cases e with
  | same => exact h
  | add hid hname htok =>
    refine h.insert hid (fun e he hn => absurd hn (hname e he)) (Nat.le_refl _) (Nat.le_succ _)
      (Nat.lt_succ_self _) ?_ ?_ <;> simp [htok]
  | put hf hid _ hname hsub =>
    have hm := Iggy.Sys.mem_of_find? hf
    rw [hid]
    exact h.insert hid hname (Nat.le_refl _) (Nat.le_refl _) (h.fresh _ hm)
      (fun t ht => .inl ⟨_, hm, hsub.subset ht⟩) ((h.tokNodup _ hm).sublist hsub)
  | mint tk hf hi =>
    have hm := Iggy.Sys.mem_of_find? hf
    refine h.insert rfl (fun e he => h.names e he _ hm) (Nat.le_succ _) (Nat.le_refl _) (h.fresh _ hm)
      (fun t ht => ?_) (List.pairwise_append.2 ⟨h.tokNodup _ hm, List.pairwise_singleton _ _, fun s hs t ht => ?_⟩)
    · rcases List.mem_append.1 ht with ht | ht
      · exact .inl ⟨_, hm, ht⟩
      · cases List.mem_singleton.1 ht
        exact .inr ⟨Nat.le_of_eq hi.symm, Nat.lt_succ_of_le (Nat.le_of_eq hi)⟩
    · cases List.mem_singleton.1 ht
      exact Nat.ne_of_lt (hi ▸ h.tokLt _ hm s hs)
  | del hk => exact h.erase hk
  | keep p hc => exact h.keepToks p hc

theorem root_perms_put {u u' : User} (hf : find? us u.id = some u) (hp : u.id = 1 → u'.perms = u.perms) :
    (find? (insertAsc us u.id u') 1).map (·.perms) = (find? us 1).map (·.perms) := by
  by_cases h1 : u.id = 1
  · rw [h1, find?_insertAsc_self, ← h1, hf, Option.map_some, Option.map_some, hp h1]
  · rw [find?_insertAsc_ne _ _ (Ne.symm h1)]

theorem Edit.root_perms (h : UsersWF us tc cur) (e : Edit us tc cur us' tc' cur') :
    (find? us' 1).map (·.perms) = (find? us 1).map (·.perms) := by
  cases e with
  | same => rfl
  | add =>
    obtain ⟨e, he, hk⟩ := find?_isSome.1 h.root
    rw [find?_insertAsc_ne _ _ (by have := h.fresh e he; omega)]
  | put hf hid hp => exact hid ▸ root_perms_put hf hp
  | mint tk hf => exact root_perms_put hf fun _ => rfl
  | del hk => rw [find?_erase_ne _ (Ne.symm hk)]
  | keep p => rw [find?_keepToks]; cases find? us 1 <;> rfl

end

theorem ASys.findUser_mem' {a : ASys} {ui : Ident} {u : User} (hf : a.findUser ui = some u) :
    ∃ k, (k, u) ∈ a.users := by
  cases ui with
  | num n => exact ⟨n, mem_of_find? (show find? a.users n = some u from hf)⟩
  | name nm =>
    simp only [ASys.findUser, Option.map_eq_some_iff] at hf
    obtain ⟨e, he, rfl⟩ := hf
    exact ⟨e.1, List.mem_of_find?_eq_some he⟩

theorem ASys.findUser_mem {a : ASys} (h : a.UWF) {ui : Ident} {u : User} (hf : a.findUser ui = some u) :
    (u.id, u) ∈ a.users := by
  obtain ⟨k, hk⟩ := ASys.findUser_mem' hf
  exact (h.key _ hk : u.id = k) ▸ hk

theorem ASys.findUser_find? {a : ASys} (h : a.UWF) {ui : Ident} {u : User} (hf : a.findUser ui = some u) :
    find? a.users u.id = some u := find?_of_mem h.asc (ASys.findUser_mem h hf)

theorem ASys.findUser_name_spec {a : ASys} {nm : String} {u : User} (hf : a.findUser (.name nm) = some u) :
    u.name = nm := by
  simp only [ASys.findUser, Option.map_eq_some_iff] at hf
  obtain ⟨e, he, rfl⟩ := hf
  simpa using List.find?_some he

theorem ASys.findUser_name_none_iff {a : ASys} {nm : String} :
    a.findUser (.name nm) = none ↔ ∀ e ∈ a.users, e.2.name ≠ nm := by
  simp only [ASys.findUser, Option.map_eq_none_iff, List.find?_eq_none, decide_eq_true_eq]

theorem ASys.findUser_name_none {a : ASys} {nm : String} (hn : ∀ e ∈ a.users, e.2.name ≠ nm) :
    a.findUser (.name nm) = none := ASys.findUser_name_none_iff.2 hn

theorem ASys.findUser_name {a : ASys} (h : a.UWF) {k : Nat} {u : User} (hm : (k, u) ∈ a.users) :
    a.findUser (.name u.name) = some u := by
  cases hf : a.findUser (.name u.name) with
  | none => exact absurd rfl (ASys.findUser_name_none_iff.1 hf _ hm)
  | some u' =>
    obtain ⟨k', hk'⟩ := ASys.findUser_mem' hf
    cases h.eq_of_name hk' hm (ASys.findUser_name_spec hf)
    rfl

theorem ASys.findUser_num {a : ASys} (n : Nat) : a.findUser (.num n) = find? a.users n := rfl

/-! ## requests that demand an authenticated connection -/

/-- `op` is a request of connection `c` that the server answers only to an authenticated connection:
the user and token management commands, logout, and every core command that calls
`ensure_authenticated` (all wire commands except `get_stats`; `clock`, `save`, `maintain`, `restart`,
`evict`, `close` are not wire commands) -/
def AOp.guardedBy (c : Nat) : AOp → Prop
  | .logout c' => c' = c
  | .createUser c' .. => c' = c
  | .deleteUser c' _ => c' = c
  | .updateUser c' .. => c' = c
  | .updatePerms c' .. => c' = c
  | .changePw c' .. => c' = c
  | .userInfo c' _ => c' = c
  | .users c' => c' = c
  | .createPat c' .. => c' = c
  | .deletePat c' _ => c' = c
  | .pats c' => c' = c
  | .core c' op => c' = c ∧ skipsAuthCheck op = false
  | _ => False

theorem stepA0_core_unauth {a : ASys} {c : Nat} {op : Op} (hu : a.userOf c = 0) (hs : skipsAuthCheck op = false) :
    stepA0 a (.core c op) = (a, .err "unauthenticated", []) := by
  simp only [stepA0]
  -- the three branches of `stepA0` on a core operation: `restart`, `close`, any other
  split
  · cases hs
  · cases hs
  · rw [if_pos ⟨hu, by rw [hs]; rfl⟩]

/-! ## what each request does: it is refused and changes nothing, or it meets its conditions and acts -/

def Refused (a : ASys) (r : ASys × Out × List Effect) : Prop := ∃ e, r = (a, .err e, [])

namespace Refused
variable {a : ASys} {r : ASys × Out × List Effect}

theorem fst (h : Refused a r) : r.1 = a := by obtain ⟨e, rfl⟩ := h; rfl
theorem not_of_ok (h : r.2.1 = .ok) : ¬ Refused a r := fun ⟨e, he⟩ => by rw [he] at h; cases h
theorem not_of_okId {k : Nat} (h : r.2.1 = .okId k) : ¬ Refused a r := fun ⟨e, he⟩ => by rw [he] at h; cases h

/-- a request that is not refused passed the check in front of `x`, the rest of the handler -/
theorem of_ite {x : ASys × Out × List Effect} {c : Prop} [Decidable c] {s : String} (h : ¬ Refused a r)
    (hr : r = if c then (a, .err s, []) else x) : ¬ c ∧ r = x := by
  by_cases hc : c
  · exact absurd ⟨s, hr.trans (if_pos hc)⟩ h
  · exact ⟨hc, hr.trans (if_neg hc)⟩

end Refused

/-- the outcome of a password login once the name resolved to `u` -/
def loginAs (a : ASys) (c : Nat) (u : User) (pw : String) : ASys × Out × List Effect :=
  if !u.active then (a, .err "user_inactive", [])
  else if u.pw ≠ pw then (a, .err "invalid_credentials", [])
  else if a.userOf c ≠ 0 ∧ (find? a.users (a.userOf c)).isNone then (a, .err "resource_not_found", [])
  else ({ a with sessions := insertAsc a.sessions c u.id }, .okId u.id, [])

/-- the outcome of a token login once the raw token resolved to token `tk` of user `u` -/
def loginTokAs (a : ASys) (c : Nat) (u : User) (tk : Tok) : ASys × Out × List Effect :=
  if tk.expiredAt a.sys.now then (a, .err "personal_access_token_expired", [])
  else if !u.active then (a, .err "user_inactive", [])
  else if a.userOf c ≠ 0 ∧ (find? a.users (a.userOf c)).isNone then (a, .err "resource_not_found", [])
  else ({ a with sessions := insertAsc a.sessions c u.id }, .okId u.id, [])

theorem stepA0_login_some {a : ASys} {c : Nat} {name pw : String} {u : User}
    (hf : a.findUser (.name name) = some u) : stepA0 a (.login c name pw) = loginAs a c u pw := by
  simp only [stepA0, hf]; rfl

theorem stepA0_login_none {a : ASys} {c : Nat} {name pw : String}
    (hf : a.findUser (.name name) = none) : stepA0 a (.login c name pw) = (a, .err "invalid_credentials", []) := by
  simp only [stepA0, hf]

theorem stepA0_loginPat_cases (a : ASys) (c k : Nat) :
    ((∀ e ∈ a.users, ∀ t ∈ e.2.tokens, t.idx ≠ k) ∧
      stepA0 a (.loginPat c k) = (a, .err "resource_not_found", [])) ∨
    ∃ e ∈ a.users, ∃ tk ∈ e.2.tokens, tk.idx = k ∧ stepA0 a (.loginPat c k) = loginTokAs a c e.2 tk := by
  cases hf : a.users.find? (fun e => e.2.tokens.any (fun tk => decide (tk.idx = k))) with
  | none =>
    refine .inl ⟨fun e he t ht hk => ?_, by simp only [stepA0, hf]⟩
    exact List.find?_eq_none.1 hf e he (List.any_eq_true.2 ⟨t, ht, decide_eq_true hk⟩)
  | some e =>
    have hany := List.find?_some hf
    obtain ⟨t, ht, hk⟩ := List.any_eq_true.1 hany
    cases hg : e.2.tokens.find? (fun tk => decide (tk.idx = k)) with
    | none => exact absurd hk (List.find?_eq_none.1 hg t ht)
    | some tk =>
      have hk' := List.find?_some hg
      refine .inr ⟨e, List.mem_of_find?_eq_some hf, tk, List.mem_of_find?_eq_some hg, of_decide_eq_true hk', ?_⟩
      simp only [stepA0, hf, hg]; rfl

theorem stepA0_loginPat_none {a : ASys} {c k : Nat} (hn : ∀ e ∈ a.users, ∀ t ∈ e.2.tokens, t.idx ≠ k) :
    stepA0 a (.loginPat c k) = (a, .err "resource_not_found", []) :=
  (stepA0_loginPat_cases a c k).elim (·.2) fun ⟨e, he, t, ht, hk, _⟩ => absurd hk (hn e he t ht)

theorem stepA0_loginPat_some {a : ASys} {tc cur : Nat} (h : UsersWF a.users tc cur) {c k : Nat} {u : User}
    (hm : (k, u) ∈ a.users) {tk : Tok}
    (ht : tk ∈ u.tokens) : stepA0 a (.loginPat c tk.idx) = loginTokAs a c u tk := by
  rcases stepA0_loginPat_cases a c tk.idx with ⟨hn, _⟩ | ⟨e, he, t, ht', hi, hr⟩
  · exact absurd rfl (hn _ hm tk ht)
  · obtain ⟨rfl, rfl⟩ := h.eq_of_tok he hm ht' ht hi
    exact hr

/-- a login on an authenticated connection first logs it out (`logout_user`), which fails when its user has
been deleted -/
def ASys.sessOK (a : ASys) (c : Nat) : Prop := a.userOf c = 0 ∨ (find? a.users (a.userOf c)).isSome = true

instance (a : ASys) (c : Nat) : Decidable (a.sessOK c) := by unfold ASys.sessOK; exact inferInstance

theorem ASys.sessOK_iff (a : ASys) (c : Nat) :
    a.sessOK c ↔ ¬ (a.userOf c ≠ 0 ∧ (find? a.users (a.userOf c)).isNone = true) := by
  unfold ASys.sessOK
  cases find? a.users (a.userOf c) <;> by_cases h : a.userOf c = 0 <;> simp [h]

theorem ASys.userOf_set (a : ASys) (c uid : Nat) :
    ({ a with sessions := insertAsc a.sessions c uid } : ASys).userOf c = uid := by
  simp [ASys.userOf, find?_insertAsc_self]

theorem loginAs_cases (a : ASys) (c : Nat) (u : User) (pw : String) :
    (u.active = false ∧ loginAs a c u pw = (a, .err "user_inactive", [])) ∨
    (u.active = true ∧ u.pw ≠ pw ∧ loginAs a c u pw = (a, .err "invalid_credentials", [])) ∨
    (u.active = true ∧ u.pw = pw ∧ ¬ a.sessOK c ∧ loginAs a c u pw = (a, .err "resource_not_found", [])) ∨
    (u.active = true ∧ u.pw = pw ∧ a.sessOK c ∧
      loginAs a c u pw = ({ a with sessions := insertAsc a.sessions c u.id }, .okId u.id, [])) := by
  rw [ASys.sessOK_iff]
  unfold loginAs
  cases u.active
  · exact .inl ⟨rfl, rfl⟩
  by_cases h2 : u.pw ≠ pw
  · exact .inr (.inl ⟨rfl, h2, if_pos h2⟩)
  by_cases h3 : a.userOf c ≠ 0 ∧ (find? a.users (a.userOf c)).isNone = true
  · exact .inr (.inr (.inl ⟨rfl, Decidable.not_not.1 h2, not_not_intro h3, (if_neg h2).trans (if_pos h3)⟩))
  · exact .inr (.inr (.inr ⟨rfl, Decidable.not_not.1 h2, h3, (if_neg h2).trans (if_neg h3)⟩))

theorem loginTokAs_cases (a : ASys) (c : Nat) (u : User) (tk : Tok) :
    (tk.validAt a.sys.now = false ∧ loginTokAs a c u tk = (a, .err "personal_access_token_expired", [])) ∨
    (tk.validAt a.sys.now = true ∧ u.active = false ∧ loginTokAs a c u tk = (a, .err "user_inactive", [])) ∨
    (tk.validAt a.sys.now = true ∧ u.active = true ∧ ¬ a.sessOK c ∧
      loginTokAs a c u tk = (a, .err "resource_not_found", [])) ∨
    (tk.validAt a.sys.now = true ∧ u.active = true ∧ a.sessOK c ∧
      loginTokAs a c u tk = ({ a with sessions := insertAsc a.sessions c u.id }, .okId u.id, [])) := by
  rw [ASys.sessOK_iff]
  unfold loginTokAs
  rw [Tok.expiredAt_eq_not_validAt]
  cases tk.validAt a.sys.now
  · exact .inl ⟨rfl, rfl⟩
  cases u.active
  · exact .inr (.inl ⟨rfl, rfl, rfl⟩)
  by_cases h3 : a.userOf c ≠ 0 ∧ (find? a.users (a.userOf c)).isNone = true
  · exact .inr (.inr (.inl ⟨rfl, rfl, not_not_intro h3, if_pos h3⟩))
  · exact .inr (.inr (.inr ⟨rfl, rfl, h3, if_neg h3⟩))

section
variable {a : ASys} {c : Nat}

theorem stepA0_login_ok {name pw : String} (h : ¬ Refused a (stepA0 a (.login c name pw))) :
    ∃ u, a.findUser (.name name) = some u ∧ u.active = true ∧ u.pw = pw ∧ a.sessOK c ∧
      stepA0 a (.login c name pw) = ({ a with sessions := insertAsc a.sessions c u.id }, .okId u.id, []) := by
  cases hf : a.findUser (.name name) with
  | none => exact absurd ⟨_, stepA0_login_none hf⟩ h
  | some u =>
    obtain ⟨h1, e⟩ := Refused.of_ite h (stepA0_login_some hf)
    obtain ⟨h2, e⟩ := Refused.of_ite h e
    obtain ⟨h3, e⟩ := Refused.of_ite h e
    exact ⟨u, rfl, by simpa using h1, Decidable.not_not.1 h2, (a.sessOK_iff c).2 h3, e⟩

theorem stepA0_loginPat_ok {k : Nat} (h : ¬ Refused a (stepA0 a (.loginPat c k))) :
    ∃ e ∈ a.users, ∃ tk ∈ e.2.tokens, tk.idx = k ∧ tk.validAt a.sys.now = true ∧ e.2.active = true ∧
      a.sessOK c ∧
      stepA0 a (.loginPat c k) = ({ a with sessions := insertAsc a.sessions c e.2.id }, .okId e.2.id, []) := by
  rcases stepA0_loginPat_cases a c k with ⟨_, hr⟩ | ⟨e, he, tk, ht, hk, hr⟩
  · exact absurd ⟨_, hr⟩ h
  · obtain ⟨h1, hr⟩ := Refused.of_ite h hr
    obtain ⟨h2, hr⟩ := Refused.of_ite h hr
    obtain ⟨h3, hr⟩ := Refused.of_ite h hr
    exact ⟨e, he, tk, ht, hk, by simpa [Tok.expiredAt_eq_not_validAt] using h1, by simpa using h2,
      (a.sessOK_iff c).2 h3, hr⟩

theorem stepA0_logout_ok (h : ¬ Refused a (stepA0 a (.logout c))) :
    a.userOf c ≠ 0 ∧ stepA0 a (.logout c) = ({ a with sessions := erase a.sessions c }, .ok, []) := by
  obtain ⟨h1, e⟩ := Refused.of_ite h rfl
  obtain ⟨_, e⟩ := Refused.of_ite h e
  exact ⟨h1, e⟩

theorem stepA0_createUser_ok {name pw : String} {active : Bool} {perms : Option Permissions}
    (h : ¬ Refused a (stepA0 a (.createUser c name pw active perms))) :
    (∀ e ∈ a.users, e.2.name ≠ name) ∧ a.userOf c ≠ 0 ∧ okR (rule_create_user a.tables (a.userOf c)) = true ∧
      stepA0 a (.createUser c name pw active perms) =
        ({ a with users := insertAsc a.users a.userCursor
                    { id := a.userCursor, name := name, pw := pw, active := active, perms := perms },
                  userCursor := a.userCursor + 1, lastUserId := a.lastUserId + 1,
                  tables := a.tables.initUser a.userCursor perms }, .okId a.userCursor, []) := by
  obtain ⟨h1, e⟩ := Refused.of_ite h rfl
  obtain ⟨h2, e⟩ := Refused.of_ite h e
  obtain ⟨h3, e⟩ := Refused.of_ite h e
  exact ⟨fun e he hn => h3 (List.any_eq_true.2 ⟨e, he, decide_eq_true hn⟩), h1, by simpa using h2, e⟩

theorem stepA0_deleteUser_ok {ui : Ident} (h : ¬ Refused a (stepA0 a (.deleteUser c ui))) :
    ∃ u, a.findUser ui = some u ∧ u.id ≠ 1 ∧ a.userOf c ≠ 0 ∧ okR (rule_delete_user a.tables (a.userOf c)) = true ∧
      stepA0 a (.deleteUser c ui) =
        ({ a with users := erase a.users u.id, tables := a.tables.deleteUser u.id }, .ok, []) := by
  obtain ⟨h1, e⟩ := Refused.of_ite h rfl
  obtain ⟨h2, e⟩ := Refused.of_ite h e
  split at e
  · exact absurd ⟨_, e⟩ h
  next u hf =>
    obtain ⟨h3, e⟩ := Refused.of_ite h e
    exact ⟨u, hf, h3, h1, by simpa using h2, e⟩

theorem stepA0_updateUser_ok {ui : Ident} {name : Option String} {status : Option Bool}
    (h : ¬ Refused a (stepA0 a (.updateUser c ui name status))) :
    ∃ u, a.findUser ui = some u ∧ (∀ nm, name = some nm → ∀ e ∈ a.users, e.2.name = nm → e.1 = u.id) ∧
      a.userOf c ≠ 0 ∧ okR (rule_update_user a.tables (a.userOf c)) = true ∧
      stepA0 a (.updateUser c ui name status) =
        (a.putUser { u with name := name.getD u.name, active := status.getD u.active }, .ok, []) := by
  obtain ⟨h1, e⟩ := Refused.of_ite h rfl
  obtain ⟨h2, e⟩ := Refused.of_ite h e
  split at e
  · exact absurd ⟨_, e⟩ h
  next u hf =>
    obtain ⟨h3, e⟩ := Refused.of_ite h e
    refine ⟨u, hf, ?_, h1, by simpa using h2, e⟩
    rintro nm rfl e he hn
    exact Decidable.byContradiction fun hne => h3 (List.any_eq_true.2 ⟨e, he, by simpa using ⟨hn, hne⟩⟩)

theorem stepA0_updatePerms_ok {ui : Ident} {perms : Option Permissions}
    (h : ¬ Refused a (stepA0 a (.updatePerms c ui perms))) :
    ∃ u, a.findUser ui = some u ∧ u.id ≠ 1 ∧ a.userOf c ≠ 0 ∧
      okR (rule_update_permissions a.tables (a.userOf c)) = true ∧
      stepA0 a (.updatePerms c ui perms) =
        ({ (a.putUser { u with perms := perms }) with tables := a.tables.updateUser u.id perms }, .ok, []) := by
  obtain ⟨h1, e⟩ := Refused.of_ite h rfl
  obtain ⟨h2, e⟩ := Refused.of_ite h e
  split at e
  · exact absurd ⟨_, e⟩ h
  next u hf =>
    obtain ⟨h3, e⟩ := Refused.of_ite h e
    exact ⟨u, hf, h3, h1, by simpa using h2, e⟩

theorem stepA0_changePw_ok {ui : Ident} {cur new : String} (h : ¬ Refused a (stepA0 a (.changePw c ui cur new))) :
    ∃ u, a.findUser ui = some u ∧ u.pw = cur ∧ a.userOf c ≠ 0 ∧
      (u.id = a.userOf c ∨ okR (rule_change_password a.tables (a.userOf c)) = true) ∧
      stepA0 a (.changePw c ui cur new) = (a.putUser { u with pw := new }, .ok, []) := by
  obtain ⟨h1, e⟩ := Refused.of_ite h rfl
  split at e
  · exact absurd ⟨_, e⟩ h
  next u hf =>
    obtain ⟨h2, e⟩ := Refused.of_ite h e
    obtain ⟨h3, e⟩ := Refused.of_ite h e
    refine ⟨u, hf, Decidable.not_not.1 h3, h1, ?_, e⟩
    by_cases hid : u.id = a.userOf c
    · exact .inl hid
    · exact .inr (by simpa [hid] using h2)

theorem stepA0_createPat_ok {name : String} {expiry : Option Nat}
    (h : ¬ Refused a (stepA0 a (.createPat c name expiry))) :
    ∃ u, find? a.users (a.userOf c) = some u ∧ a.userOf c ≠ 0 ∧
      stepA0 a (.createPat c name expiry) =
        ({ (a.putUser { u with tokens := u.tokens ++
              [{ name := name, idx := a.tokenCount, expiry := expiry.map (· + a.sys.now) }] }) with
            tokenCount := a.tokenCount + 1 }, .okId a.tokenCount, []) := by
  obtain ⟨h1, e⟩ := Refused.of_ite h rfl
  split at e
  · exact absurd ⟨_, e⟩ h
  next u hf =>
    obtain ⟨_, e⟩ := Refused.of_ite h e
    obtain ⟨_, e⟩ := Refused.of_ite h e
    exact ⟨u, hf, h1, e⟩

theorem stepA0_deletePat_ok {name : String} (h : ¬ Refused a (stepA0 a (.deletePat c name))) :
    ∃ u, find? a.users (a.userOf c) = some u ∧ a.userOf c ≠ 0 ∧ (∃ tk ∈ u.tokens, tk.name = name) ∧
      stepA0 a (.deletePat c name) =
        (a.putUser { u with tokens := u.tokens.filter (fun tk => decide (tk.name ≠ name)) }, .ok, []) := by
  obtain ⟨h1, e⟩ := Refused.of_ite h rfl
  split at e
  · exact absurd ⟨_, e⟩ h
  next u hf =>
    obtain ⟨h2, e⟩ := Refused.of_ite h e
    exact ⟨u, hf, h1, by simpa using h2, e⟩

end

/-! ## the clean-up of expired tokens, the core operations -/

theorem stepA0_cleanPats (a : ASys) :
    stepA0 a .cleanPats = ({ a with users := keepToks (Tok.validAt a.sys.now) a.users }, .ok, []) := rfl

theorem stepA0_restart_users (a : ASys) (c : Nat) (cl : List (PKey × Nat)) :
    (stepA0 a (.core c (.restart cl))).1.users = keepToks (Tok.validAt a.sys.now) a.users := rfl

theorem stepA0_restart_sessions (a : ASys) (c : Nat) (cl : List (PKey × Nat)) :
    (stepA0 a (.core c (.restart cl))).1.sessions = [] := rfl

theorem stepA0_restart_sys (a : ASys) (c : Nat) (cl : List (PKey × Nat)) :
    (stepA0 a (.core c (.restart cl))).1.sys = (step a.sys (.restart cl)).1 := rfl

theorem stepA0_restart_tokenCount (a : ASys) (c : Nat) (cl : List (PKey × Nat)) :
    (stepA0 a (.core c (.restart cl))).1.tokenCount = a.tokenCount := rfl

theorem stepA0_restart_userCursor (a : ASys) (c : Nat) (cl : List (PKey × Nat)) :
    (stepA0 a (.core c (.restart cl))).1.userCursor =
      max (a.users.foldl (fun m e => max m e.1) 1) a.lastUserId + 1 := rfl

theorem stepA0_core (a : ASys) (c : Nat) (op : Op) (hr : ∀ cl, op ≠ .restart cl) :
    (stepA0 a (.core c op)).1 = a ∨
    (stepA0 a (.core c op)).1 = { a with sys := (step a.sys op).1 } ∧ (∀ cc, op ≠ .close cc) ∨
    (stepA0 a (.core c op)).1 = { a with sys := (step a.sys op).1, sessions := erase a.sessions c } ∧
      ∃ cc, op = .close cc := by
  simp only [stepA0]
  split
  · exact absurd rfl (hr _)
  · exact .inr (.inr ⟨rfl, _, rfl⟩)
  · next hclose =>
    split
    · exact .inl rfl
    · split
      · exact .inl rfl
      · exact .inr (.inl ⟨rfl, hclose⟩)

theorem step_restart_now (y : Sys) (cl : List (PKey × Nat)) : (step y (.restart cl)).1.now = y.now :=
  (apply_ite (fun r : Sys × Out × List Effect => r.1.now) _ _ _).trans (ite_self _)

theorem stepA0_userInfo_fst (a : ASys) (c : Nat) (ui : Ident) : (stepA0 a (.userInfo c ui)).1 = a := by
  simp only [stepA0]
  cases a.findUser ui <;> simp only [apply_ite Prod.fst, ite_self]

theorem stepA0_users_fst (a : ASys) (c : Nat) : (stepA0 a (.users c)).1 = a := by
  simp only [stepA0, apply_ite Prod.fst, ite_self]

theorem stepA0_pats_fst (a : ASys) (c : Nat) : (stepA0 a (.pats c)).1 = a := by
  simp only [stepA0]
  cases find? a.users (a.userOf c) <;> simp only [apply_ite Prod.fst, ite_self]

/-! ## the invariant holds initially and is preserved by every operation -/

theorem uwf_init (y : Sys) (patMax : Nat) : (ASys.init y patMax).UWF :=
  have all {P : Nat × User → Prop} (h : P (1, rootUser)) : ∀ e ∈ [(1, rootUser)], P e :=
    fun _ he => List.mem_singleton.1 he ▸ h
  { asc := List.pairwise_singleton _ _
    key := all rfl
    names := all (all fun _ => rfl)
    tokOwner := all (all nofun)
    tokNodup := all .nil
    tokLt := all nofun
    root := rfl
    fresh := all (Nat.lt_succ_self 1) }

theorem ASys.UWF.putUser_same {a : ASys} (h : a.UWF) {u u' : User}
    (hf : find? a.users u.id = some u) (hid : u'.id = u.id) (hname : u'.name = u.name)
    (htok : ∀ t ∈ u'.tokens, t ∈ u.tokens)
    (hnd : u'.tokens.Pairwise (fun s t => s.idx ≠ t.idx)) : (a.putUser u').UWF := by
  have hm := mem_of_find? hf
  show UsersWF (insertAsc a.users u'.id u') _ _
  rw [hid]
  exact h.insert hid (fun e he hn => h.names e he _ hm (hn.trans hname)) (Nat.le_refl _) (Nat.le_refl _)
    (h.fresh _ hm) (fun t ht => .inl ⟨u, hm, htok t ht⟩) hnd

theorem le_foldl_max (l : List (Nat × User)) (m : Nat) :
    m ≤ l.foldl (fun m e => max m e.1) m ∧ ∀ e ∈ l, e.1 ≤ l.foldl (fun m e => max m e.1) m := by
  induction l generalizing m with
  | nil => exact ⟨Nat.le_refl _, fun _ h => nomatch h⟩
  | cons x l ih =>
    obtain ⟨h1, h2⟩ := ih (max m x.1)
    refine ⟨Nat.le_trans (Nat.le_max_left m x.1) h1, fun e he => ?_⟩
    rcases List.mem_cons.1 he with rfl | he
    · exact Nat.le_trans (Nat.le_max_right m e.1) h1
    · exact h2 e he

theorem stepA0_edit {a : ASys} (h : a.UWF) (op : AOp) :
    Edit a.users a.tokenCount a.userCursor
      (stepA0 a op).1.users (stepA0 a op).1.tokenCount (stepA0 a op).1.userCursor := by
  -- a refused request changes nothing; otherwise the operation's `_ok` lemma gives the new state, and
  -- that state is an instance of one constructor of `Edit`
  by_cases hr : Refused a (stepA0 a op)
  · rw [hr.fst]; exact .same
  have put {u u' : User} (hf : find? a.users u.id = some u) (hp : u.id = 1 → u'.perms = u.perms)
      (hid : u'.id = u.id) (hname : u'.name = u.name) (hsub : u'.tokens.Sublist u.tokens) :
      Edit a.users a.tokenCount a.userCursor (a.putUser u').users a.tokenCount a.userCursor :=
    .put hf hid hp (fun e he hn => h.names e he _ (mem_of_find? hf) (hn.trans hname)) hsub
  have own {c : Nat} {u : User} (hf : find? a.users (a.userOf c) = some u) : find? a.users u.id = some u :=
    (h.id_of_find? hf).symm ▸ hf
  cases op with
  | ping c => exact .same
  | login c name pw => obtain ⟨_, _, _, _, _, he⟩ := stepA0_login_ok hr; rw [he]; exact .same
  | loginPat c k => obtain ⟨_, _, _, _, _, _, _, _, he⟩ := stepA0_loginPat_ok hr; rw [he]; exact .same
  | logout c => rw [(stepA0_logout_ok hr).2]; exact .same
  | createUser c name pw active perms =>
    obtain ⟨hn, _, _, he⟩ := stepA0_createUser_ok hr
    rw [he]; exact .add rfl hn rfl
  | deleteUser c ui =>
    obtain ⟨u, _, hne, _, _, he⟩ := stepA0_deleteUser_ok hr
    rw [he]; exact .del hne
  | updateUser c ui name status =>
    obtain ⟨u, hf, hn, _, _, he⟩ := stepA0_updateUser_ok hr
    have hfu := ASys.findUser_find? h hf
    rw [he]
    cases name with
    | none => exact put hfu (fun _ => rfl) rfl rfl (.refl _)
    | some nm =>
      exact .put (u' := { u with name := nm, active := status.getD u.active }) hfu rfl (fun _ => rfl) (hn nm rfl)
        (.refl _)
  | updatePerms c ui perms =>
    obtain ⟨u, hf, hne, _, _, he⟩ := stepA0_updatePerms_ok hr
    rw [he]; exact put (ASys.findUser_find? h hf) (absurd · hne) rfl rfl (.refl _)
  | changePw c ui cur new =>
    obtain ⟨u, hf, _, _, _, he⟩ := stepA0_changePw_ok hr
    rw [he]; exact put (ASys.findUser_find? h hf) (fun _ => rfl) rfl rfl (.refl _)
  | userInfo c ui => rw [stepA0_userInfo_fst]; exact .same
  | users c => rw [stepA0_users_fst]; exact .same
  | createPat c name expiry =>
    obtain ⟨u, hf, _, he⟩ := stepA0_createPat_ok hr
    rw [he]; exact .mint (u := u) _ (own hf) rfl
  | deletePat c name =>
    obtain ⟨u, hf, _, _, he⟩ := stepA0_deletePat_ok hr
    rw [he]; exact put (own hf) (fun _ => rfl) rfl rfl List.filter_sublist
  | pats c => rw [stepA0_pats_fst]; exact .same
  | cleanPats => exact .keep _ h.fresh
  | core c op =>
    by_cases hop : ∃ cl, op = .restart cl
    · obtain ⟨cl, rfl⟩ := hop
      refine .keep _ fun e he => ?_
      show e.1 < max (a.users.foldl (fun m e => max m e.1) 1) a.lastUserId + 1
      exact Nat.lt_succ_of_le (Nat.le_trans ((le_foldl_max a.users 1).2 e he) (Nat.le_max_left _ _))
    · rcases stepA0_core a c op fun cl hc => hop ⟨cl, hc⟩ with he | ⟨he, _⟩ | ⟨he, _⟩ <;> rw [he] <;> exact .same

theorem uwf_step {a : ASys} (h : a.UWF) (op : AOp) : (stepA0 a op).1.UWF := UsersWF.edit h (stepA0_edit h op)

theorem root_perms_step {a : ASys} (h : a.UWF) (op : AOp) :
    (find? (stepA0 a op).1.users 1).map (·.perms) = (find? a.users 1).map (·.perms) :=
  (stepA0_edit h op).root_perms h

theorem stepA0_changePw_findUser {a : ASys} (hw : a.UWF) {c : Nat} {ui : Ident} {cur new : String} {u : User}
    (h : (stepA0 a (.changePw c ui cur new)).2.1 = .ok) (hf : a.findUser ui = some u) :
    stepA0 a (.changePw c ui cur new) = (a.putUser { u with pw := new }, .ok, []) ∧
    (a.putUser { u with pw := new }).findUser (.name u.name) = some { u with pw := new } := by
  have hw' := uwf_step hw (.changePw c ui cur new)
  obtain ⟨_, hf', _, _, _, he⟩ := stepA0_changePw_ok (Refused.not_of_ok h)
  cases hf.symm.trans hf'
  rw [he] at hw'
  exact ⟨he, ASys.findUser_name hw' (mem_insertAsc_self _ u.id { u with pw := new })⟩

/-! ## logins against a table whose tokens were filtered (clean-up of expired tokens, restart) -/

theorem userOf_congr {a a' : ASys} (hs : a'.sessions = a.sessions) (c : Nat) : a'.userOf c = a.userOf c := by
  unfold ASys.userOf; rw [hs]

section keepToks
variable {a a' : ASys} {p : Tok → Bool} (hu : a'.users = keepToks p a.users) (hs : a'.sessions = a.sessions)
include hu

theorem findUser_keepToks (ui : Ident) : a'.findUser ui = (a.findUser ui).map (·.keepToks p) := by
  cases ui with
  | num n => simp only [ASys.findUser, hu, find?_keepToks]
  | name nm =>
    simp only [ASys.findUser, hu, keepToks, mapE, List.find?_map, Option.map_map]
    rfl

theorem find?_keepToks_isNone (k : Nat) : (find? a'.users k).isNone = (find? a.users k).isNone := by
  rw [hu, find?_keepToks]
  cases find? a.users k <;> rfl

include hs

theorem loginAs_keepToks (c : Nat) (u : User) (pw : String) :
    (loginAs a' c (u.keepToks p) pw).2.1 = (loginAs a c u pw).2.1 := by
  simp only [loginAs, userOf_congr hs, find?_keepToks_isNone hu, apply_ite Prod.snd, apply_ite Prod.fst,
    User.keepToks_active, User.keepToks_pw, User.keepToks_id]

theorem loginTokAs_keepToks (hnow : a'.sys.now = a.sys.now) (c : Nat) (u : User) (tk : Tok) :
    (loginTokAs a' c (u.keepToks p) tk).2.1 = (loginTokAs a c u tk).2.1 := by
  simp only [loginTokAs, userOf_congr hs, hnow, find?_keepToks_isNone hu, apply_ite Prod.snd, apply_ite Prod.fst,
    User.keepToks_active, User.keepToks_id]

theorem login_keepToks (c : Nat) (name pw : String) :
    (stepA0 a' (.login c name pw)).2.1 = (stepA0 a (.login c name pw)).2.1 := by
  have hf' := findUser_keepToks hu (.name name)
  cases hf : a.findUser (.name name) with
  | none =>
    rw [hf] at hf'
    rw [stepA0_login_none hf, stepA0_login_none hf']
  | some u =>
    rw [hf] at hf'
    rw [stepA0_login_some hf, stepA0_login_some hf']
    exact loginAs_keepToks hu hs c u pw

end keepToks

/-- dropping the tokens that have expired does not change the answer to a token login, except that an
expired token, refused as expired before, is afterwards refused as unknown -/
theorem loginPat_keepToks {a a' : ASys} (h : a.UWF) (hu : a'.users = keepToks (Tok.validAt a.sys.now) a.users)
    (hnow : a'.sys.now = a.sys.now) (hs : a'.sessions = a.sessions) (c k : Nat) :
    (stepA0 a' (.loginPat c k)).2.1 =
      if (stepA0 a (.loginPat c k)).2.1 = .err "personal_access_token_expired" then .err "resource_not_found"
      else (stepA0 a (.loginPat c k)).2.1 := by
  by_cases hex : ∃ e ∈ a.users, ∃ t ∈ e.2.tokens, t.idx = k ∧ t.validAt a.sys.now = true
  · -- a token that has not expired is there before and after, and is judged alike
    obtain ⟨e, he, t, ht, rfl, hv⟩ := hex
    have he' : (e.1, e.2.keepToks (Tok.validAt a.sys.now)) ∈ a'.users :=
      hu ▸ UsersWF.mem_keepToks.2 ⟨e, he, rfl⟩
    rw [stepA0_loginPat_some h he ht,
      stepA0_loginPat_some (hu ▸ h.keepToks _ h.fresh) he' (List.mem_filter.2 ⟨ht, hv⟩),
      loginTokAs_keepToks hu hs hnow]
    refine (if_neg ?_).symm
    rcases loginTokAs_cases a c e.2 t with ⟨hv', _⟩ | ⟨_, _, hr⟩ | ⟨_, _, _, hr⟩ | ⟨_, _, _, hr⟩
    · rw [hv] at hv'; cases hv'
    all_goals rw [hr]; simp
  · -- otherwise no token with this raw value is left; before, there was none or an expired one
    have hn : ∀ e ∈ a'.users, ∀ t ∈ e.2.tokens, t.idx ≠ k := by
      intro e' he' t ht' hk
      obtain ⟨e, he, rfl⟩ := UsersWF.mem_keepToks.1 (hu ▸ he')
      obtain ⟨ht, hv⟩ := List.mem_filter.1 ht'
      exact hex ⟨e, he, t, ht, hk, hv⟩
    rw [stepA0_loginPat_none hn]
    rcases stepA0_loginPat_cases a c k with ⟨_, hr⟩ | ⟨e, he, t, ht, hk, hr⟩
    · rw [hr]; exact (ite_self _).symm
    · rcases loginTokAs_cases a c e.2 t with ⟨_, hr'⟩ | ⟨hv, _⟩ | ⟨hv, _⟩ | ⟨hv, _⟩
      · rw [hr, hr']; exact (if_pos rfl).symm
      all_goals exact absurd ⟨e, he, t, ht, hk, hv⟩ hex

/-! ## histories -/

def runA (a : ASys) (ops : List AOp) : ASys := ops.foldl (fun a op => (stepA0 a op).1) a

def outsA (a : ASys) : List AOp → List Out
  | [] => []
  | op :: ops => (stepA0 a op).2.1 :: outsA (stepA0 a op).1 ops

theorem uwf_run {a : ASys} (h : a.UWF) (ops : List AOp) : (runA a ops).UWF :=
  List.foldlRecOn ops _ h fun _ hb op _ => uwf_step hb op

theorem root_perms_run {a : ASys} (h : a.UWF) (ops : List AOp) :
    (find? (runA a ops).users 1).map (·.perms) = (find? a.users 1).map (·.perms) := by
  induction ops generalizing a with
  | nil => rfl
  | cons op ops ih =>
    show (find? (runA (stepA0 a op).1 ops).users 1).map _ = _
    rw [ih (uwf_step h op), root_perms_step h op]

/-- `stepA` is `stepA0` except that the single-entity reads answer a failure with an empty response -/
theorem stepA_fst (a : ASys) (op : AOp) : (stepA a op).1 = (stepA0 a op).1 := by
  unfold stepA
  simp only
  split
  · split <;> rfl
  · rfl

theorem stepA_eq (a : ASys) {op : AOp} (h : emptyOnError op = false) : stepA a op = stepA0 a op := by
  unfold stepA
  simp only [h, Bool.false_eq_true, false_and, if_false]
  split <;> rfl

/-! ## a concrete server, for examples -/

def demoSys : Sys := Sys.init ⟨10, 1000, false, false, false⟩ ⟨false, none, none⟩ 0

def demoInit : ASys := ASys.init demoSys 100

end Iggy.Sys

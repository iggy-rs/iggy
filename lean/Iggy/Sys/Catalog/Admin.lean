/-
The journalled administrative commands: each either fails without a visible change or is `Journaled`.
This file: the four stream commands and `createTopic`; the seven commands below a topic are in
`AdminTopic.lean`.
-/
import Iggy.Sys.Catalog.Spec
namespace Iggy.Sys
open Iggy.Log

theorem any_name_false {α : Type} {l : List (Nat × α)} {nm : α → String} {name : String}
    (h : ¬ (l.any fun e => decide (nm e.2 = name)) = true) : ∀ e ∈ l, nm e.2 ≠ name := by
  intro e he hn
  apply h
  exact List.any_eq_true.2 ⟨e, he, by simpa using hn⟩

/-- the id a create takes and the cursor it leaves behind: the explicit id, or the first free one from
the cursor on -/
def pickId {α : Type} (l : List (Nat × α)) (cursor : Nat) : Option Nat → Nat × Nat
  | some i => (i, cursor)
  | none => allocId (fun i => (find? l i).isSome) cursor (l.length + 1)

/- `step` at a create, shown as the if-chain "name taken / id taken / create" with the choice of the id
packaged as `pickId`; the two error texts, which no caller looks at, are quantified away.  The chain is
then taken apart by `ite_elim` or `create_okId` (`Create.lean`) without unfolding `step` again.  Same shape:
`step_createTopic` below, `step_createGroup` in `Create.lean`. -/
theorem step_createStream (y : Sys) (id : Option Nat) (name : String) {p : Nat × Nat}
    (hp : pickId y.streams y.streamCursor id = p) :
    ∃ e₁ e₂, step y (.createStream id name) =
      if y.streams.any (fun e => e.2.name = name) then (y, .err e₁, []) else
      if (find? y.streams p.1).isSome then ({ y with streamCursor := p.2 }, .err e₂, []) else
      (({ y with streams := insertAsc y.streams p.1 ⟨p.1, name, [], 1⟩, streamCursor := p.2 } : Sys).journalAdd
        (.createStream p.1 name), .okId p.1, []) := by
  subst hp; exact ⟨_, _, rfl⟩

theorem spec_createStream {y : Sys} (h : y.CatWF) (id : Option Nat) (name : String) :
    Spec y (step y (.createStream id name)) := by
  obtain ⟨_, _, heq⟩ := step_createStream y id name rfl
  rw [heq]
  refine ite_elim (fun _ => .failed rfl rfl) fun hname => ite_elim (fun _ => .failed rfl rfl) fun _ => ?_
  refine .logged _ rfl ⟨rfl, ?_, fun r hr hp => ⟨?_, hp⟩⟩
  · show CatView.WF (mapE _ (insertAsc _ _ _))
    rw [mapE_insertAsc]
    refine CatView.WF.insert h rfl (fun x hx hn => ?_) (ScopeP.nil : ScopeP TV.id TV.name TV.WF [])
    obtain ⟨a, ha, rfl⟩ := mem_mapE.1 hx
    exact absurd hn (any_name_false (nm := Stream.name) hname a ha)
  · show mapE _ (insertAsc _ _ _) = mapE _ (insertAsc _ _ _)
    rw [mapE_insertAsc, mapE_insertAsc]
    show insertAsc (viewR r) _ _ = insertAsc (viewY y) _ _
    rw [hr]
    rfl

theorem any_other_false {α : Type} {l : List (Nat × α)} {nm : α → String} {name : String} {k : Nat}
    (h : ¬ (l.any fun e => decide (nm e.2 = name ∧ e.1 ≠ k)) = true) : ∀ e ∈ l, nm e.2 = name → e.1 = k := by
  intro e he hn
  apply Classical.byContradiction
  intro hk
  apply h
  exact List.any_eq_true.2 ⟨e, he, by simpa using ⟨hn, hk⟩⟩

theorem spec_updateStream {y : Sys} (h : y.CatWF) (si : Ident) (name : String) :
    Spec y (step y (.updateStream si name)) := by
  simp only [step]
  split
  · exact .failed rfl rfl
  · next s hs =>
    obtain ⟨hm, hsi⟩ := h.findStream.1 hs
    refine ite_elim (fun _ => .failed rfl rfl) fun hname => ?_
    refine .logged (.updateStream si name) rfl
      (Journaled.stream h hm hsi (f := fun s => some { s with name := name }) (fun r => rfl)
        (s' := { s with name := name }) rfl (any_other_false (nm := Stream.name) hname) (h.stream hm :) ?_ rfl rfl)
    intro sr hsr
    refine ⟨_, rfl, ?_⟩
    show ({ sr.view with name := name } : SV) = _
    rw [hsr]
    rfl

theorem spec_deleteStream {y : Sys} (h : y.CatWF) (si : Ident) : Spec y (step y (.deleteStream si)) := by
  simp only [step]
  split
  · exact .failed rfl rfl
  · next s hs =>
    obtain ⟨hm, hsi⟩ := h.findStream.1 hs
    refine .logged (.deleteStream si) rfl ⟨rfl, ?_, ?_⟩
    · show CatView.WF (mapE _ (erase y.streams s.id))
      rw [mapE_erase]; exact CatView.WF.erase h _
    · intro r hr hp
      have hV : CatView.WF (viewR r) := by rw [hr]; exact h
      have hm' : (s.id, s.view) ∈ viewR r := by rw [hr]; exact mem_viewY hm
      have := viewR_deleteStream hp hV hm' hsi
      refine ⟨?_, this.2⟩
      rw [this.1, hr]
      exact (mapE_erase _ _ _).symm

theorem spec_purgeStream {y : Sys} (h : y.CatWF) (si : Ident) : Spec y (step y (.purgeStream si)) := by
  simp only [step]
  split
  · exact .failed rfl rfl
  · next s hs =>
    obtain ⟨hm, hsi⟩ := h.findStream.1 hs
    have hv : (s.mapTopics (fun t => mapParts t (fun p => p.purge y.cfg y.now))).view = s.view :=
      Stream.view_mapTopics s _ (fun t => Topic.view_mapParts t _)
    refine .logged (.purgeStream si) rfl
      (Journaled.stream h hm hsi (f := some) (fun r => rfl)
        (s' := s.mapTopics (fun t => mapParts t (fun p => p.purge y.cfg y.now))) rfl ?_ ?_ ?_ rfl rfl)
    · exact h.scope.fresh_of_same_name hm rfl
    · rw [hv]; exact h.stream hm
    · intro sr hsr
      exact ⟨sr, rfl, by rw [hv, hsr]⟩

theorem mkParts_keys (cfg : Cfg) (e : Option Nat) (now k n : Nat) :
    (mkParts cfg e now k n).map (·.1) = List.range' k n := by
  simp [mkParts, List.range'_eq_map_range, List.map_map, Function.comp_def]

theorem mkParts_length (cfg : Cfg) (e : Option Nat) (now k n : Nat) : (mkParts cfg e now k n).length = n := by
  simp [mkParts]

theorem TV.WF.congr {tv tv' : TV} (h : tv.WF) (hp : tv'.parts = tv.parts) (hg : tv'.groups = tv.groups) : tv'.WF := by
  unfold TV.WF at h ⊢
  rw [hp, hg]; exact h

theorem nparts_of_view {tr : RTopic} {t : Topic} (hv : tr.view = t.view) : tr.nparts = t.parts.length := by
  have := congrArg (fun v => v.parts.length) hv
  simpa [RTopic.view, Topic.view] using this

theorem step_createTopic {y : Sys} {si : Ident} {s : Stream} {m : MaxArg} {maxSize : Option Nat} {p : Nat × Nat}
    (hs : y.findStream si = .ok s) (hm : resolveMax y.cfg y.scfg m = .ok maxSize) (id : Option Nat)
    (hp : pickId s.topics s.topicCursor id = p) (name : String) (nparts : Nat) (e : ExpiryArg) (repl : Option Nat) :
    ∃ e₁ e₂, step y (.createTopic si id name nparts e m repl) =
      if s.topics.any (fun te => te.2.name = name) then (y, .err e₁, []) else
      if (find? s.topics p.1).isSome then (y.putStream { s with topicCursor := p.2 }, .err e₂, []) else
      ((y.putTopic { s with topicCursor := p.2 }
          ⟨p.1, name, mkParts y.cfg (resolveExpiry y.scfg e) y.now 1 nparts, resolveExpiry y.scfg e, maxSize,
            repl.getD 1, 1, [], 1⟩).journalAdd
        (.createTopic si p.1 name nparts (resolveExpiry y.scfg e) maxSize repl), .okId p.1,
        (List.range nparts).map (fun i => Effect.created (s.id, p.1, 1 + i) (resolveExpiry y.scfg e))) := by
  subst hp; simp only [step, hs, hm]; exact ⟨_, _, rfl⟩

theorem spec_createTopic {y : Sys} (h : y.CatWF) (si : Ident) (id : Option Nat) (name : String) (nparts : Nat)
    (e : ExpiryArg) (m : MaxArg) (repl : Option Nat) :
    Spec y (step y (.createTopic si id name nparts e m repl)) := by
  cases hs : y.findStream si with
  | error _ => simp only [step, hs]; exact .failed rfl rfl
  | ok s =>
    cases hmax : resolveMax y.cfg y.scfg m with
    | error _ => simp only [step, hs, hmax]; exact .failed rfl rfl
    | ok maxSize =>
      obtain ⟨hm, hsi⟩ := h.findStream.1 hs
      obtain ⟨_, _, heq⟩ := step_createTopic hs hmax id rfl name nparts e repl
      rw [heq]
      generalize pickId s.topics s.topicCursor id = p
      refine ite_elim (fun _ => .failed rfl rfl) fun hname => ite_elim (fun _ => ?_) fun _ => ?_
      · exact .failed (viewY_putStream_same h hm (s' := { s with topicCursor := p.2 }) rfl rfl) rfl
      refine .logged _ rfl (Journaled.stream h hm hsi
        (f := fun s => some { s with
          topics := insertAsc s.topics p.1 ⟨p.1, name, nparts, resolveExpiry y.scfg e, maxSize, repl, []⟩ })
        (fun r => rfl) (s' := Stream.putTopic { s with topicCursor := p.2 } _) rfl
        (h.scope.fresh_of_same_name hm rfl) ?_ (fun sr hsr => ⟨_, rfl, ?_⟩) rfl rfl)
      · rw [Stream.view_putTopic]
        refine SV.WF.setTopic (h.stream hm) rfl (fun x hx hn => ?_) ⟨?_, ScopeP.nil⟩
        · obtain ⟨a, ha, rfl⟩ := mem_mapE (f := fun _ (t : Topic) => t.view).1 hx
          exact absurd hn (any_name_false (nm := Topic.name) hname a ha)
        · simp only [Topic.view, mkParts_keys, List.length_range']
      · rw [Stream.view_putTopic]
        show _ = s.view.setTopic _ _
        rw [← hsr]
        simp only [RStream.view, SV.setTopic, mapE_insertAsc, RTopic.view, Topic.view, mkParts_keys]
        rfl

end Iggy.Sys

/-
Helper lemmas and definitions for property C09 (Iggy/Props/C09.lean): association lists, `dedupKeys`
(map semantics), the six lookups a rule performs (`Tables.view`) on the tables built by `initUser` /
`deleteUser` / `updateUser` and what they answer (`viewOf`), the order `Permissions.le`, writing one
stream / topic record (`setStream`, `setTopic`).
Nothing here mentions a generated rule: see Iggy/Perm/RuleTac.lean for the rule tactics and
Iggy/Perm/RuleFacts.lean for the facts about every rule.
-/
import Iggy.Perm.Tables
import Iggy.Perm.Spec
namespace Iggy.Perm

section AL
variable {κ α : Type} [BEq κ] [LawfulBEq κ]
set_option linter.unusedSectionVars false

@[simp] theorem alGet_nil (k : κ) : alGet ([] : List (κ × α)) k = none := rfl

theorem alGet_cons (e : κ × α) (l : List (κ × α)) (k : κ) :
    alGet (e :: l) k = if e.1 == k then some e.2 else alGet l k := by
  unfold alGet
  rw [List.find?_cons]
  cases h : (e.1 == k) <;> simp

theorem alGet_filter_keep (q : κ × α → Bool) (l : List (κ × α)) (k : κ)
    (hq : ∀ e : κ × α, e.1 = k → q e = true) : alGet (l.filter q) k = alGet l k := by
  unfold alGet
  rw [List.find?_filter]
  congr 2; funext e
  cases h : e.1 == k
  · simp
  · simp [hq e (beq_iff_eq.1 h)]

theorem alGet_eq_none_iff (l : List (κ × α)) (k : κ) : alGet l k = none ↔ ∀ e ∈ l, e.1 ≠ k := by
  simp [alGet, List.find?_eq_none]

theorem alGet_filter_drop (q : κ × α → Bool) (l : List (κ × α)) (k : κ)
    (hq : ∀ e : κ × α, e.1 = k → q e = false) : alGet (l.filter q) k = none :=
  (alGet_eq_none_iff _ _).2 fun e he hk => by simp [hq e hk] at he

theorem alGet_append (l1 l2 : List (κ × α)) (k : κ) :
    alGet (l1 ++ l2) k = match alGet l1 k with | some v => some v | none => alGet l2 k := by
  unfold alGet
  rw [List.find?_append]
  cases l1.find? _ <;> rfl

theorem contains_filter {β : Type} [BEq β] [LawfulBEq β] (q : β → Bool) (l : List β) (x : β) :
    (l.filter q).contains x = (l.contains x && q x) := by
  simp [List.mem_filter]

theorem contains_ite_cons {β : Type} [BEq β] [LawfulBEq β] (b : Bool) (a : β) (l : List β) (x : β) :
    (if b then a :: l else l).contains x = ((b && a == x) || l.contains x) := by
  cases b
  · simp only [Bool.false_and, Bool.false_or]; rfl
  · rw [if_pos rfl, Bool.true_and, List.contains_cons, BEq.comm]

theorem pair_beq_same (u a b : Nat) : ((u, a) == (u, b)) = (a == b) := by
  rw [Bool.eq_iff_iff]; simp

end AL

/-! ## `dedupKeys`: a list with pairwise distinct keys -/

def DistinctKeys {α : Type} : List (Nat × α) → Prop
  | [] => True
  | e :: rest => (∀ x ∈ rest, x.1 ≠ e.1) ∧ DistinctKeys rest

theorem mem_dedupKeys {α : Type} (l : List (Nat × α)) (x : Nat × α) (h : x ∈ dedupKeys l) : x ∈ l := by
  induction l with
  | nil => simp [dedupKeys] at h
  | cons e rest ih =>
    unfold dedupKeys at h
    split at h
    · exact List.mem_cons_of_mem _ (ih h)
    · rcases List.mem_cons.1 h with h | h
      · exact h ▸ List.mem_cons_self
      · exact List.mem_cons_of_mem _ (ih h)

theorem distinct_dedupKeys {α : Type} (l : List (Nat × α)) : DistinctKeys (dedupKeys l) := by
  induction l with
  | nil => simp [dedupKeys, DistinctKeys]
  | cons e rest ih =>
    unfold dedupKeys
    split
    · exact ih
    · rename_i hany
      refine ⟨fun x hx hxe => hany ?_, ih⟩
      exact List.any_eq_true.2 ⟨x, mem_dedupKeys _ _ hx, by simp [hxe]⟩

theorem alGet_dedupKeys {α : Type} (l : List (Nat × α)) (k : Nat) :
    alGet (dedupKeys l) k = alGet l.reverse k := by
  induction l with
  | nil => rfl
  | cons e rest ih =>
    rw [List.reverse_cons, alGet_append, ← ih, dedupKeys]
    by_cases hany : rest.any (fun x => x.1 == e.1) = true
    · rw [if_pos hany]
      cases hr : alGet (dedupKeys rest) k with
      | some v => rfl
      | none =>
        rw [ih] at hr
        obtain ⟨x, hx, hxe⟩ := List.any_eq_true.1 hany
        have hne := (alGet_eq_none_iff _ _).1 hr x (List.mem_reverse.2 hx)
        have : e.1 ≠ k := fun h => hne (by rw [← h]; simpa using hxe)
        simp [alGet_cons, this]
    · rw [if_neg hany, alGet_cons]
      by_cases hk : e.1 = k
      · have hnone : alGet rest.reverse k = none := by
          apply (alGet_eq_none_iff _ _).2
          intro x hx hxk
          exact hany (List.any_eq_true.2 ⟨x, List.mem_reverse.1 hx, by simp [hxk, hk]⟩)
        rw [ih, hnone]
        simp [hk, alGet_cons]
      · cases hr : alGet (dedupKeys rest) k <;> simp [hk, alGet_cons]

/-! ## what a rule can observe of the tables -/

/-- the six lookups a rule evaluated for user `u` at stream `s` performs on the tables -/
structure View where
  g : Option GlobalPermissions
  sr : Option StreamPermissions
  pollAll : Bool
  sendAll : Bool
  pollS : Bool
  sendS : Bool
deriving DecidableEq

def Tables.view (t : Tables) (u s : Nat) : View :=
  { g := alGet t.users_permissions u
    sr := alGet t.users_streams_permissions (u, s)
    pollAll := t.users_that_can_poll_messages_from_all_streams.contains u
    sendAll := t.users_that_can_send_messages_to_all_streams.contains u
    pollS := t.users_that_can_poll_messages_from_specific_streams.contains (u, s)
    sendS := t.users_that_can_send_messages_to_specific_streams.contains (u, s) }

def viewOf (p : Option Permissions) (s : Nat) : View :=
  { g := p.map (·.global)
    sr := p.bind (fun p => streamRec p s)
    pollAll := match p with | some p => p.global.poll_messages | none => false
    sendAll := match p with | some p => p.global.send_messages | none => false
    pollS := match p with | some p => sflag p s (·.poll_messages) | none => false
    sendS := match p with | some p => sflag p s (·.send_messages) | none => false }

def Tables.Free (t : Tables) (u : Nat) : Prop := ∀ s, t.view u s = viewOf none s

theorem Tables.free_empty (u : Nat) : ({} : Tables).Free u := fun _ => rfl

/-- one iteration of the loop of `init_permissions_for_user` over the stream records -/
def initStep (u : Nat) (acc : Tables) (e : Nat × StreamPermissions) : Tables :=
  { acc with
    users_that_can_poll_messages_from_specific_streams :=
      if e.2.poll_messages then (u, e.1) :: acc.users_that_can_poll_messages_from_specific_streams
      else acc.users_that_can_poll_messages_from_specific_streams
    users_that_can_send_messages_to_specific_streams :=
      if e.2.send_messages then (u, e.1) :: acc.users_that_can_send_messages_to_specific_streams
      else acc.users_that_can_send_messages_to_specific_streams
    users_streams_permissions :=
      ((u, e.1), e.2) :: acc.users_streams_permissions.filter (fun x => x.1 != (u, e.1)) }

/-- the part of `init_permissions_for_user` before the loop -/
def initGlobal (t : Tables) (u : Nat) (g : GlobalPermissions) : Tables :=
  { t with
    users_that_can_poll_messages_from_all_streams :=
      if g.poll_messages then u :: t.users_that_can_poll_messages_from_all_streams
      else t.users_that_can_poll_messages_from_all_streams
    users_that_can_send_messages_to_all_streams :=
      if g.send_messages then u :: t.users_that_can_send_messages_to_all_streams
      else t.users_that_can_send_messages_to_all_streams
    users_permissions := (u, g) :: t.users_permissions.filter (fun e => e.1 != u) }

theorem initUser_some (t : Tables) (u : Nat) (p : Permissions) :
    t.initUser u (some p) =
      match p.streams with
      | none => initGlobal t u p.global
      | some streams => (dedupKeys streams).foldl (initStep u) (initGlobal t u p.global) := rfl

theorem initStep_view (u s : Nat) (t : Tables) (e : Nat × StreamPermissions) :
    (initStep u t e).view u s =
      { t.view u s with
        sr := if e.1 == s then some e.2 else (t.view u s).sr
        pollS := (e.1 == s && e.2.poll_messages) || (t.view u s).pollS
        sendS := (e.1 == s && e.2.send_messages) || (t.view u s).sendS } := by
  have hsr : alGet (initStep u t e).users_streams_permissions (u, s) =
      if e.1 == s then some e.2 else alGet t.users_streams_permissions (u, s) := by
    simp only [initStep, alGet_cons]
    by_cases h : e.1 = s
    · simp [h]
    · rw [alGet_filter_keep]
      · simp [h]
      · intro x hx; rw [hx]; simp only [bne_iff_ne, ne_eq, Prod.mk.injEq, true_and]; exact Ne.symm h
  simp only [Tables.view, hsr]
  simp only [initStep, contains_ite_cons, pair_beq_same, Bool.and_comm]

theorem initStep_view_other (u u' s : Nat) (h : u' ≠ u) (t : Tables) (e : Nat × StreamPermissions) :
    (initStep u t e).view u' s = t.view u' s := by
  have hne : ∀ x : Nat, ((u, x) == (u', s)) = false := fun x => beq_false_of_ne fun hh => h (Prod.mk.inj hh).1.symm
  have hsr : alGet (initStep u t e).users_streams_permissions (u', s) =
      alGet t.users_streams_permissions (u', s) := by
    simp only [initStep, alGet_cons, hne]
    rw [alGet_filter_keep]
    · simp
    · intro x hx; simp [hx, h]
  simp only [Tables.view, hsr]
  simp only [initStep, contains_ite_cons, hne, Bool.and_false, Bool.false_or]

theorem foldl_initStep_view (u s : Nat) (d : List (Nat × StreamPermissions)) (hd : DistinctKeys d)
    (t : Tables) :
    (d.foldl (initStep u) t).view u s =
      { t.view u s with
        sr := match alGet d s with | some sp => some sp | none => (t.view u s).sr
        pollS := (match alGet d s with | some sp => sp.poll_messages | none => false) || (t.view u s).pollS
        sendS := (match alGet d s with | some sp => sp.send_messages | none => false) || (t.view u s).sendS } := by
  induction d generalizing t with
  | nil => simp
  | cons e d ih =>
    rw [List.foldl_cons, ih hd.2, initStep_view, alGet_cons]
    by_cases h : e.1 = s
    · have := (alGet_eq_none_iff d e.1).2 hd.1
      rw [h] at this
      simp [h, this]
    · have h' : (e.1 == s) = false := by simp [h]
      simp [h']

theorem foldl_initStep_view_other (u u' s : Nat) (h : u' ≠ u) (d : List (Nat × StreamPermissions))
    (t : Tables) : (d.foldl (initStep u) t).view u' s = t.view u' s := by
  induction d generalizing t with
  | nil => rfl
  | cons e d ih => rw [List.foldl_cons, ih, initStep_view_other _ _ _ h]

theorem initGlobal_view (t : Tables) (u s : Nat) (g : GlobalPermissions) :
    (initGlobal t u g).view u s =
      { t.view u s with
        g := some g
        pollAll := g.poll_messages || (t.view u s).pollAll
        sendAll := g.send_messages || (t.view u s).sendAll } := by
  simp only [Tables.view, initGlobal, alGet_cons, contains_ite_cons, beq_self_eq_true, if_true,
    Bool.and_true]

theorem initGlobal_view_other (t : Tables) (u u' s : Nat) (h : u' ≠ u) (g : GlobalPermissions) :
    (initGlobal t u g).view u' s = t.view u' s := by
  have hg : alGet (initGlobal t u g).users_permissions u' = alGet t.users_permissions u' := by
    simp only [initGlobal, alGet_cons]
    rw [alGet_filter_keep]
    · simp [Ne.symm h]
    · intro x hx; simp [hx, h]
  simp only [Tables.view, hg]
  simp only [initGlobal, contains_ite_cons, beq_false_of_ne h.symm, Bool.and_false, Bool.false_or]

theorem initUser_view (t : Tables) (u s : Nat) (p : Option Permissions) (hf : t.Free u) :
    (t.initUser u p).view u s = viewOf p s := by
  cases p with
  | none => exact hf s
  | some p =>
    rw [initUser_some]
    cases hs : p.streams with
    | none =>
      simp only [initGlobal_view, hf s]
      simp [viewOf, streamRec, sflag, hs]
    | some streams =>
      simp only [foldl_initStep_view _ _ _ (distinct_dedupKeys streams), initGlobal_view, hf s]
      simp only [viewOf, streamRec, sflag, hs, Option.bind_some, Option.map_some, Bool.or_false]
      cases alGet (dedupKeys streams) s <;> rfl

theorem initUser_view_other (t : Tables) (u u' s : Nat) (p : Option Permissions) (h : u' ≠ u) :
    (t.initUser u p).view u' s = t.view u' s := by
  cases p with
  | none => rfl
  | some p =>
    rw [initUser_some]
    cases p.streams with
    | none => exact initGlobal_view_other _ _ _ _ h _
    | some streams =>
      simp only [foldl_initStep_view_other _ _ _ h, initGlobal_view_other _ _ _ _ h]

theorem deleteUser_free (t : Tables) (u : Nat) : (t.deleteUser u).Free u := by
  intro s
  simp only [Tables.view, Tables.deleteUser, viewOf, Option.map_none, Option.bind_none, contains_filter]
  rw [alGet_filter_drop, alGet_filter_drop]
  · simp
  · intro e he; simp [he]
  · intro e he; simp [he]

theorem deleteUser_view_other (t : Tables) (u u' s : Nat) (h : u' ≠ u) :
    (t.deleteUser u).view u' s = t.view u' s := by
  simp only [Tables.view, Tables.deleteUser, contains_filter]
  rw [alGet_filter_keep, alGet_filter_keep]
  · simp [h]
  · intro e he; simp [he, h]
  · intro e he; simp [he, h]

theorem updateUser_view (t : Tables) (u s : Nat) (p : Option Permissions) :
    (t.updateUser u p).view u s = viewOf p s :=
  initUser_view _ _ _ _ (deleteUser_free t u)

theorem updateUser_view_other (t : Tables) (u u' s : Nat) (p : Option Permissions) (h : u' ≠ u) :
    (t.updateUser u p).view u' s = t.view u' s := by
  unfold Tables.updateUser
  rw [initUser_view_other _ _ _ _ _ h, deleteUser_view_other _ _ _ _ h]

theorem tablesOf_view (u s : Nat) (p : Option Permissions) : (tablesOf u p).view u s = viewOf p s :=
  initUser_view _ _ _ _ (Tables.free_empty u)

/-! ### the lookup lemmas, one per table (rewrite rules for the rule tactics): the fields of `tablesOf_view`,
for a user with a record / without one: the form used after the case split on the record
(right-hand sides mention `streamRec p s` syntactically, never through `sflag`) -/

theorem lks_global (u : Nat) (p : Permissions) :
    alGet (tablesOf u (some p)).users_permissions u = some p.global :=
  congrArg View.g (tablesOf_view u 0 (some p))
theorem lks_stream (u s : Nat) (p : Permissions) :
    alGet (tablesOf u (some p)).users_streams_permissions (u, s) = streamRec p s :=
  congrArg View.sr (tablesOf_view u s (some p))
theorem lks_pollAll (u : Nat) (p : Permissions) :
    (tablesOf u (some p)).users_that_can_poll_messages_from_all_streams.contains u = p.global.poll_messages :=
  congrArg View.pollAll (tablesOf_view u 0 (some p))
theorem lks_sendAll (u : Nat) (p : Permissions) :
    (tablesOf u (some p)).users_that_can_send_messages_to_all_streams.contains u = p.global.send_messages :=
  congrArg View.sendAll (tablesOf_view u 0 (some p))
theorem lks_pollS (u s : Nat) (p : Permissions) :
    (tablesOf u (some p)).users_that_can_poll_messages_from_specific_streams.contains (u, s) =
      (match streamRec p s with | some sp => sp.poll_messages | none => false) :=
  congrArg View.pollS (tablesOf_view u s (some p))
theorem lks_sendS (u s : Nat) (p : Permissions) :
    (tablesOf u (some p)).users_that_can_send_messages_to_specific_streams.contains (u, s) =
      (match streamRec p s with | some sp => sp.send_messages | none => false) :=
  congrArg View.sendS (tablesOf_view u s (some p))

theorem lkn_global (u : Nat) : alGet (tablesOf u none).users_permissions u = none := rfl
theorem lkn_stream (u s : Nat) : alGet (tablesOf u none).users_streams_permissions (u, s) = none := rfl
theorem lkn_pollAll (u : Nat) :
    (tablesOf u none).users_that_can_poll_messages_from_all_streams.contains u = false := rfl
theorem lkn_sendAll (u : Nat) :
    (tablesOf u none).users_that_can_send_messages_to_all_streams.contains u = false := rfl
theorem lkn_pollS (u s : Nat) :
    (tablesOf u none).users_that_can_poll_messages_from_specific_streams.contains (u, s) = false := rfl
theorem lkn_sendS (u s : Nat) :
    (tablesOf u none).users_that_can_send_messages_to_specific_streams.contains (u, s) = false := rfl

/-! ## more permissions: `Permissions.le` -/

def gLe (a b : GlobalPermissions) : Bool :=
  (!a.manage_servers || b.manage_servers) && (!a.read_servers || b.read_servers) &&
  (!a.manage_users || b.manage_users) && (!a.read_users || b.read_users) &&
  (!a.manage_streams || b.manage_streams) && (!a.read_streams || b.read_streams) &&
  (!a.manage_topics || b.manage_topics) && (!a.read_topics || b.read_topics) &&
  (!a.poll_messages || b.poll_messages) && (!a.send_messages || b.send_messages)

/-- the stream-level flags (the topic table is compared separately) -/
def spLe (a b : StreamPermissions) : Bool :=
  (!a.manage_stream || b.manage_stream) && (!a.read_stream || b.read_stream) &&
  (!a.manage_topics || b.manage_topics) && (!a.read_topics || b.read_topics) &&
  (!a.poll_messages || b.poll_messages) && (!a.send_messages || b.send_messages)

/-- `p ≤ p'`: `p'` has every flag `p` has, on every level — "granting a user more permissions" -/
def Permissions.le (p p' : Permissions) : Prop :=
  gLe p.global p'.global = true ∧
  ∀ s sp, streamRec p s = some sp →
    ∃ sp', streamRec p' s = some sp' ∧ spLe sp sp' = true ∧
      ∀ tp t, topicRec sp tp = some t → ∃ t', topicRec sp' tp = some t' ∧ tpLe t t' = true

/-! ## changing one stream record / one topic record -/

/-- `streams.insert(s', sp')` on the record of a user -/
def Permissions.setStream (p : Permissions) (s' : Nat) (sp' : StreamPermissions) : Permissions :=
  { p with streams := some (p.streams.getD [] ++ [(s', sp')]) }

theorem streamRec_setStream (p : Permissions) (s' s : Nat) (sp' : StreamPermissions) :
    streamRec (p.setStream s' sp') s = if s' = s then some sp' else streamRec p s := by
  unfold streamRec Permissions.setStream
  simp only [Option.bind_some, alGet_dedupKeys, List.reverse_append, List.reverse_cons, List.reverse_nil,
    List.nil_append, List.cons_append, alGet_cons]
  by_cases h : s' = s
  · simp [h]
  · cases hs : p.streams <;> simp [h]

theorem setStream_global (p : Permissions) (s' : Nat) (sp' : StreamPermissions) :
    (p.setStream s' sp').global = p.global := rfl

/-- `topics.insert(tp', t')` on a stream record -/
def StreamPermissions.setTopic (sp : StreamPermissions) (tp' : Nat) (t' : TopicPermissions) :
    StreamPermissions :=
  { sp with topics := some ((tp', t') :: sp.topics.getD []) }

theorem topicRec_setTopic (sp : StreamPermissions) (tp' tp : Nat) (t' : TopicPermissions) :
    topicRec (sp.setTopic tp' t') tp = if tp' = tp then some t' else topicRec sp tp := by
  unfold topicRec StreamPermissions.setTopic
  simp only [Option.bind_some, alGet_cons]
  by_cases h : tp' = tp
  · simp [h]
  · cases ht : sp.topics <;> simp [h]

/-! ## what a rule at `(s, tp)` can see of a stream record -/

def topicSight (tp : Nat) (sp : StreamPermissions) : StreamPermissions × Option TopicPermissions :=
  ({ sp with topics := none }, topicRec sp tp)

theorem topicSight_setTopic (sp : StreamPermissions) (tp' tp : Nat) (t' : TopicPermissions) (h : tp' ≠ tp) :
    topicSight tp (sp.setTopic tp' t') = topicSight tp sp := by
  unfold topicSight
  rw [topicRec_setTopic, if_neg h]
  rfl

end Iggy.Perm

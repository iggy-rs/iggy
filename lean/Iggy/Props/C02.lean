/-
C02 — a poll returns exactly the requested slice of the log, whichever tier holds it.
The specification's answer mentions only the retained messages (`SPart.msgs`): no tier, index,
cache or threshold occurs in it, so independence from where messages live is part of the statement;
Iggy/Log/Lemmas/ReadPart.lean and ReadTs.lean show the storage model L1 computes the same answer from its
tiers, and the judge compares the real server with this specification on every poll.
-/
import Iggy.Log.SpecRun
import Iggy.Log.RefineRun
namespace Iggy.Props.C02
open Iggy.Log

/-- every message a poll returns is a retained message, unaltered -/
theorem poll_genuine (p : SPart) (off count : Nat) (m : Msg) (h : m ∈ p.pollOffset off count) : m ∈ p.msgs :=
  SPart.pollOffset_genuine p off count m h

/-- no holes, no repeats: the offsets of a poll result are consecutive (any reachable state) -/
theorem poll_contiguous (cfg : Cfg) (e : Option Nat) (ops : List SOp) (off count : Nat) :
    ∃ lo, consecutiveFrom lo ((SPart.run cfg e ops).pollOffset off count) :=
  SPart.pollOffset_consecutive _ off count (SPart.run_inv cfg e ops)

/-- never fewer than available: every retained message of the window `[off, off+count)` is returned -/
theorem poll_complete (p : SPart) (off count : Nat) (m : Msg) (hm : m ∈ p.msgs)
    (h1 : off ≤ m.off) (h2 : m.off < off + count) (hlo : ∀ f, p.msgs.head? = some f → f.off ≤ off) :
    m ∈ p.pollOffset off count := SPart.pollOffset_complete p off count m hm h1 h2 hlo

/-- never more than asked for -/
theorem poll_at_most_count (cfg : Cfg) (e : Option Nat) (ops : List SOp) (off count : Nat) :
    ((SPart.run cfg e ops).pollOffset off count).length ≤ count :=
  SPart.pollOffset_length_le _ off count (SPart.run_inv cfg e ops)

/-- in offset order: the result is a sublist of the (ascending) retained log -/
theorem poll_in_order (p : SPart) (off count : Nat) : (p.pollOffset off count).Sublist p.msgs :=
  SPart.pollOffset_sublist p off count

/-- first / last / next are offset polls at the corresponding position -/
theorem first_last_next (p : SPart) (count : Nat) (grp : Bool) (cid : Nat) :
    p.pollFirst count = p.pollOffset 0 count ∧
    p.pollLast count = p.pollOffset (p.next - min count p.next) (min count p.next) ∧
    p.pollNext grp cid count = (match p.getOffset grp cid with
      | none => p.pollOffset 0 count | some o => p.pollOffset (o + 1) count) :=
  ⟨rfl, rfl, SPart.pollNext_spec p grp cid count⟩

/-- a timestamp poll returns the first `count` retained messages whose timestamp is at least `ts` -/
theorem timestamp_poll (p : SPart) (ts count : Nat) :
    p.pollTimestamp ts count = (p.msgs.filter (fun m => ts ≤ m.ts)).take count := rfl

/-- restart is the identity on what polls can see (flush, background save and cache eviction are not
operations of the specification at all: `l1_identity_ops`) -/
theorem identity_ops_invisible (p : SPart) (off count : Nat) :
    p.restart.pollOffset off count = p.pollOffset off count := rfl

/-! non-vacuity -/
example : ((SPart.run exCfg none exHist).pollOffset 0 10).map (·.off) = [1, 2] := by decide
example : ((SPart.run exCfg none exHist).pollLast 1).map (·.off) = [2] := by decide


/-! ## on the storage model L1: the tiers compute the specification's answer -/

/-- C02 on L1: whatever tier holds the messages — cache, unsaved buffer, one or several segments, one or
several stored batches, cached or scanned index, stale cache after retention — a poll by offset
returns exactly the specification's slice. Configuration (`cfg`) occurs only in reachability. -/
theorem l1_poll_offset {cfg : Cfg} {p : Part} (hseg : 0 < cfg.segSize) (r : Reach cfg p) {off count : Nat}
    (hc : 0 < count) : p.getByOffset off count = (abs p).pollOffset off count :=
  getByOffset_refines (r.inv hseg) hc

theorem l1_poll_exact {cfg : Cfg} {p : Part} (hseg : 0 < cfg.segSize) (r : Reach cfg p) {off count : Nat}
    (hc : 0 < count) : p.getByOffset off count =
      p.msgs.filter (fun m => max off p.firstStart ≤ m.off ∧ m.off < max off p.firstStart + count) :=
  reach_poll_exact hseg r hc

theorem l1_poll_first_last_next {cfg : Cfg} {p : Part} (hseg : 0 < cfg.segSize) (r : Reach cfg p)
    {count : Nat} (hc : 0 < count) (grp : Bool) (cid : Nat) :
    p.getFirst count = (abs p).pollFirst count ∧ p.getLast count = (abs p).pollLast count ∧
    p.getNext grp cid count = (abs p).pollNext grp cid count :=
  ⟨getFirst_refines (r.inv hseg) hc, getLast_refines (r.inv hseg) hc, getNext_refines (r.inv hseg) hc⟩

/-- timestamp polls — proved for log files below 4 GiB (`_partial`: the index position is a u32 in the
real code, so larger files are outside what the server supports) -/
theorem l1_poll_timestamp_partial {cfg : Cfg} {p : Part} (hseg : 0 < cfg.segSize) (r : Reach cfg p)
    (hsmall : ∀ s ∈ p.segs, logBytes s.log < 2^32) (ts count : Nat) :
    p.getByTimestamp ts count = (abs p).pollTimestamp ts count :=
  getByTimestamp_refines_partial (r.inv hseg) hsmall ts count

/-- flush, background save and cache eviction never change any poll answer -/
theorem l1_identity_ops {cfg : Cfg} {p : Part} (hseg : 0 < cfg.segSize) (r : Reach cfg p) (keep : Nat) :
    abs (p.flush cfg) = abs p ∧ abs (p.save cfg) = abs p ∧ abs (p.evict keep) = abs p :=
  ⟨(flush_refines (r.inv hseg)).2, (save_refines (r.inv hseg)).2, (evict_refines (r.inv hseg) keep).2⟩

end Iggy.Props.C02

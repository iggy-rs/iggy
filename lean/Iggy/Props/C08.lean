/-
C08 — consumer groups split a topic's partitions exclusively and evenly among the members; a member
polling without naming a partition is served only from its own share, visiting each of its partitions
in turn; with `next` polling and auto-commit the group as a whole is handed every message of every
partition in offset order and none twice, whichever members poll and however membership changes.

The statements are about the executable model of `ConsumerGroup` (Iggy/Sys/Model.lean:
`assignShares`, `Group.addMember`, `Group.deleteMember`, `Group.setParts`, `Group.adoptOrder`,
`Member.calc`, `Topic.resolve`) — the judge compares every join / leave / get-group / group poll of the
real server with it — and about the abstract partition (`SPart`) for the offset part.  The hash-map
iteration order of the implementation is the list order of `members`: every theorem below is for an
arbitrary member list, hence for every order.
-/
import Iggy.Sys.GroupLemmas
namespace Iggy.Props.C08
open Iggy.Log Iggy.Sys

/-! ## 1–3: exclusive, within the topic, even

Each of these is an instance of a `Dealt` lemma (Iggy/Sys/GroupLemmas.lean), as are their versions for
reachable group states below. -/

/-- Every partition `1 … nparts` of the topic is in the share of exactly one position of the member
list (any number of members ≥ 1, any order, any `nparts`). -/
theorem exclusive_cover (nparts : Nat) (ms : List Member) (hne : ms ≠ []) (p : Nat)
    (h1 : 1 ≤ p) (h2 : p ≤ nparts) :
    ∃ j : Nat, (∃ m : Member, (assignShares nparts ms)[j]? = some m ∧ p ∈ m.share) ∧
      ∀ j' : Nat, (∃ m' : Member, (assignShares nparts ms)[j']? = some m' ∧ p ∈ m'.share) → j' = j :=
  (dealt_assignShares nparts ms).cover (assignShares_ne_nil nparts hne) p h1 h2

/-- The same by members: some member owns partition `p`, and every member owning `p` is that one. -/
theorem exclusive_cover_member (nparts : Nat) (ms : List Member) (hne : ms ≠ []) (p : Nat)
    (h1 : 1 ≤ p) (h2 : p ≤ nparts) :
    ∃ m ∈ assignShares nparts ms, p ∈ m.share ∧
      ∀ m' ∈ assignShares nparts ms, p ∈ m'.share → m' = m :=
  (dealt_assignShares nparts ms).owner (assignShares_ne_nil nparts hne) p h1 h2

/-- With pairwise distinct client ids (a hash map keyed by client id) a client id names one member:
its share is well defined. -/
theorem member_unique (nparts : Nat) (ms : List Member) (hnd : (ms.map (·.id)).Nodup) :
    ∀ a ∈ assignShares nparts ms, ∀ b ∈ assignShares nparts ms, a.id = b.id → a = b :=
  fun _ ha _ hb hid => nodup_id_inj (by rwa [map_id_assignShares]) ha hb hid

/-- Exactly one client owns partition `p`: there is a client id among the members such that the
members owning `p` are precisely those with that id. -/
theorem exclusive_client (nparts : Nat) (ms : List Member) (hnd : (ms.map (·.id)).Nodup) (hne : ms ≠ [])
    (p : Nat) (h1 : 1 ≤ p) (h2 : p ≤ nparts) :
    ∃ id ∈ ms.map (·.id), ∀ m ∈ assignShares nparts ms, (p ∈ m.share ↔ m.id = id) := by
  rw [← map_id_assignShares nparts ms] at hnd ⊢
  exact (dealt_assignShares nparts ms).client hnd (assignShares_ne_nil nparts hne) p h1 h2

/-- Two different clients never share a partition. -/
theorem shares_disjoint (nparts : Nat) (ms : List Member) :
    ∀ a ∈ assignShares nparts ms, ∀ b ∈ assignShares nparts ms, a.id ≠ b.id →
      ∀ p, p ∈ a.share → p ∉ b.share :=
  fun _ ha _ hb hid _ hpa hpb =>
    hid (congrArg Member.id ((dealt_assignShares nparts ms).eq_of_mem_share ha hb hpa hpb))

/-- Shares contain only partitions of the topic. -/
theorem shares_only_existing (nparts : Nat) (ms : List Member) :
    ∀ m ∈ assignShares nparts ms, ∀ p ∈ m.share, 1 ≤ p ∧ p ≤ nparts :=
  fun _ hm _ hp => (dealt_assignShares nparts ms).share_bounds hm hp

/-- Even split: the share sizes of any two members differ by at most one. -/
theorem balanced (nparts : Nat) (ms : List Member) :
    ∀ a ∈ assignShares nparts ms, ∀ b ∈ assignShares nparts ms, a.share.length ≤ b.share.length + 1 :=
  (dealt_assignShares nparts ms).balanced

/-- … namely `⌊nparts / members⌋` or one more. -/
theorem share_size (nparts : Nat) (ms : List Member) :
    ∀ a ∈ assignShares nparts ms,
      nparts / ms.length ≤ a.share.length ∧ a.share.length ≤ nparts / ms.length + 1 :=
  fun _ ha => length_assignShares nparts ms ▸ (dealt_assignShares nparts ms).share_length ha

/-- A share lists its partitions in ascending order — in particular none twice. -/
theorem share_ascending (nparts : Nat) (ms : List Member) :
    ∀ a ∈ assignShares nparts ms, a.share.Pairwise (· < ·) :=
  fun _ ha => (dealt_assignShares nparts ms).share_sorted ha

/-! ## 4: membership, and the assignment in every reachable group state -/

/-- Assigning neither adds, drops nor reorders members. -/
theorem members_preserved (nparts : Nat) (ms : List Member) :
    (assignShares nparts ms).map (·.id) = ms.map (·.id) := map_id_assignShares nparts ms

/-- Assigning twice is assigning once. -/
theorem assign_idempotent (nparts : Nat) (ms : List Member) :
    assignShares nparts (assignShares nparts ms) = assignShares nparts ms := assignShares_idem nparts ms

/-- Join: the members are the old ones other than `id`, plus `id`; the group is freshly assigned. -/
theorem join_members (g : Group) (id : Nat) :
    (g.addMember id).members.map (·.id) = (g.members.map (·.id)).filter (· ≠ id) ++ [id] ∧
    (g.addMember id).nparts = g.nparts ∧ (g.addMember id).Assigned :=
  ⟨Group.addMember_ids g id, rfl, Group.assign_assigned _⟩

/-- Leave (or disconnect): the members are the old ones other than `id`. -/
theorem leave_members (g : Group) (id : Nat) (h : g.Assigned) :
    (g.deleteMember id).members.map (·.id) = (g.members.map (·.id)).filter (· ≠ id) ∧
    (g.deleteMember id).nparts = g.nparts ∧ (g.deleteMember id).Assigned :=
  ⟨Group.deleteMember_ids g id, Group.deleteMember_nparts g id, g.step_assigned (.leave id) h⟩

/-- A change of the topic's partition count: the group follows it, members unchanged, reassigned. -/
theorem parts_tracks_topic (g : Group) (n : Nat) :
    (g.setParts n).nparts = n ∧ (g.setParts n).members.map (·.id) = g.members.map (·.id) ∧
    (g.setParts n).Assigned :=
  ⟨rfl, Group.setParts_ids g n, Group.assign_assigned _⟩

/-- Observing another iteration order of the hash map (no key twice) permutes the members — none
lost, none added — and leaves the group assigned for the new order. -/
theorem adopt_members (g : Group) (order : List Nat) (ho : order.Nodup) (h : g.Assigned)
    (hnd : (g.members.map (·.id)).Nodup) :
    ((g.adoptOrder order).members.map (·.id)).Perm (g.members.map (·.id)) ∧
    (g.adoptOrder order).nparts = g.nparts ∧ (g.adoptOrder order).Assigned :=
  ⟨Group.adoptOrder_perm g order ho hnd, Group.adoptOrder_nparts g order, g.step_assigned (.adopt order) h⟩

/-- Every group state reachable from a new (memberless) group by any sequence of joins, leaves,
partition-count changes and order observations carries exactly the assignment of
`assign_partitions` for its current partition count and member order. -/
theorem reachable_assigned (g0 : Group) (h0 : g0.members = []) (ops : List GOp) :
    (g0.run ops).Assigned :=
  Group.run_assigned g0 ops (Group.assigned_of_nil h0)

/-- … and its member ids are pairwise distinct, provided no observed order lists an id twice
(`GOp.WF`; a hash-map iteration never does).  Without that proviso the statement is false of the
model: see the counterexample below. -/
theorem reachable_nodup_partial (g0 : Group) (h0 : g0.members = []) (ops : List GOp)
    (hops : ∀ op ∈ ops, op.WF) : ((g0.run ops).members.map (·.id)).Nodup :=
  Group.run_nodup g0 ops hops (by rw [h0]; exact List.nodup_nil)

/-- counterexample to `reachable_nodup_partial` without `GOp.WF`: `adoptOrder [1,1]` on members 1, 2 passes the
model's length checks and yields member 1 twice. -/
example : ¬ (((Group.mk 1 "g" 3 []).run [.join 1, .join 2, .adopt [1, 1]]).members.map (·.id)).Nodup := by
  decide +kernel

/-- The member ids a history leaves behind, computed on ids alone. -/
def specIds (ops : List GOp) : List Nat :=
  ops.foldl (fun ids op => match op with
    | .join id => ids.filter (· ≠ id) ++ [id]
    | .leave id => ids.filter (· ≠ id)
    | _ => ids) []

/-- The members of a reachable group are exactly the clients that joined and have not left since (up
to the order, which is the implementation's). -/
theorem reachable_members (g0 : Group) (h0 : g0.members = []) (ops : List GOp)
    (hops : ∀ op ∈ ops, op.WF) : ((g0.run ops).members.map (·.id)).Perm (specIds ops) := by
  refine (List.foldl_rel (f := Group.step)
    (r := fun g ids => (g.members.map (·.id)).Nodup ∧ (g.members.map (·.id)).Perm ids) ?_ ?_).2
  · rw [h0]; exact ⟨List.nodup_nil, .refl _⟩
  · rintro op hop g ids ⟨hnd, hp⟩
    refine ⟨g.step_nodup op (hops op hop) hnd, ?_⟩
    cases op with
    | join id => exact Group.addMember_ids g id ▸ (hp.filter _).append_right _
    | leave id => exact Group.deleteMember_ids g id ▸ hp.filter _
    | setParts n => exact Group.setParts_ids g n ▸ hp
    | adopt o => exact (Group.adoptOrder_perm g o (hops _ hop) hnd).trans hp

/-- 1 in every reachable group state with at least one member: each partition of the (tracked)
partition count is owned by exactly one position … -/
theorem reachable_exclusive_cover (g0 : Group) (h0 : g0.members = []) (ops : List GOp)
    (hne : (g0.run ops).members ≠ []) (p : Nat) (h1 : 1 ≤ p) (h2 : p ≤ (g0.run ops).nparts) :
    ∃ j : Nat, (∃ m : Member, (g0.run ops).members[j]? = some m ∧ p ∈ m.share) ∧
      ∀ j' : Nat, (∃ m' : Member, (g0.run ops).members[j']? = some m' ∧ p ∈ m'.share) → j' = j :=
  (reachable_assigned g0 h0 ops).shares.dealt.cover hne p h1 h2

/-- … and, observed orders being duplicate-free, by exactly one client. -/
theorem reachable_exclusive_client (g0 : Group) (h0 : g0.members = []) (ops : List GOp)
    (hops : ∀ op ∈ ops, op.WF)
    (hne : (g0.run ops).members ≠ []) (p : Nat) (h1 : 1 ≤ p) (h2 : p ≤ (g0.run ops).nparts) :
    ∃ id ∈ (g0.run ops).members.map (·.id), ∀ m ∈ (g0.run ops).members, (p ∈ m.share ↔ m.id = id) :=
  (reachable_assigned g0 h0 ops).shares.client (reachable_nodup_partial g0 h0 ops hops) hne p h1 h2

/-- 2 in every reachable group state. -/
theorem reachable_shares_only_existing (g0 : Group) (h0 : g0.members = []) (ops : List GOp) :
    ∀ m ∈ (g0.run ops).members, ∀ p ∈ m.share, 1 ≤ p ∧ p ≤ (g0.run ops).nparts :=
  fun _ hm _ hp => (reachable_assigned g0 h0 ops).shares.dealt.share_bounds hm hp

/-- 3 in every reachable group state. -/
theorem reachable_balanced (g0 : Group) (h0 : g0.members = []) (ops : List GOp) :
    ∀ a ∈ (g0.run ops).members, ∀ b ∈ (g0.run ops).members, a.share.length ≤ b.share.length + 1 :=
  (reachable_assigned g0 h0 ops).shares.dealt.balanced

/-! ## 5: rotation over the own share -/

/-- Whatever its state, a member is only ever handed partitions of its own share, and calling
`calculate_partition_id` changes neither its share nor its id. -/
theorem rotation_in_share (m : Member) (k : Nat) :
    (∀ p, (calcIter m k).1 = some p → p ∈ m.share) ∧
    (calcIter m k).2.share = m.share ∧ (calcIter m k).2.id = m.id := by
  induction k generalizing m with
  | zero => exact ⟨m.calc_mem, m.calc_share, m.calc_id⟩
  | succ k ih =>
    obtain ⟨h1, h2, h3⟩ := ih m.calc.2
    exact ⟨fun p hp => m.calc_share ▸ h1 p hp, h2.trans m.calc_share, h3.trans m.calc_id⟩

/-- From any cursor position `i` inside the share, the `k`-th call returns entry `(i + k) mod length`:
the rotation goes on from where it stands. -/
theorem rotation_from (m : Member) (i k : Nat) (hi : m.idx = some i) (hlt : i < m.share.length) :
    (calcIter m k).1 = m.share[(i + k) % m.share.length]? := by
  induction k generalizing m i with
  | zero =>
    rw [calcIter, (m.calc_spec i hi hlt).1, Nat.add_zero, Nat.mod_eq_of_lt hlt,
      List.getElem?_eq_getElem hlt]
  | succ k ih =>
    have hs := m.calc_share
    rw [calcIter, ih m.calc.2 _ (m.calc_spec i hi hlt).2 (by rw [hs]; exact Nat.mod_lt _ (by omega)), hs,
      Nat.mod_add_mod, Nat.add_assoc, Nat.add_comm 1 k]

/-- After an assignment the `k`-th call (counting from 0) of a member with a non-empty share returns
entry `k mod length` of the share: each partition of the share in turn, then again from the first. -/
theorem rotation (nparts : Nat) (ms : List Member) (m : Member) (hm : m ∈ assignShares nparts ms)
    (hne : m.share ≠ []) (k : Nat) :
    (calcIter m k).1 = m.share[k % m.share.length]? := by
  have hidx : m.idx = some 0 := by rw [assignShares_fresh hm]; exact Member.fresh_idx _ _ hne
  simpa using rotation_from m 0 k hidx (List.length_pos_iff.mpr hne)

/-- Every round of `share.length` consecutive calls visits the share once, in order. -/
theorem rotation_round (nparts : Nat) (ms : List Member) (m : Member) (hm : m ∈ assignShares nparts ms)
    (r : Nat) :
    (List.range m.share.length).map (fun k => (calcIter m (m.share.length * r + k)).1) =
      m.share.map some := by
  apply List.ext_getElem (by simp)
  intro i h1 _
  have hi : i < m.share.length := by simpa using h1
  rw [List.getElem_map, List.getElem_range, List.getElem_map,
    rotation nparts ms m hm (List.length_pos_iff.mp (by omega)), Nat.mul_add_mod_self_left,
    Nat.mod_eq_of_lt hi, List.getElem?_eq_getElem hi]

/-- A member without partitions (more members than partitions) is told there is none. -/
theorem empty_share_none (m : Member) (h : m.share = []) : m.calc.1 = none := Member.calc_nil m h

/-- The members left without a partition are exactly those at positions `≥ nparts`. -/
theorem empty_share_iff (nparts : Nat) (ms : List Member) (j : Nat) (m : Member)
    (hm : (assignShares nparts ms)[j]? = some m) : m.share = [] ↔ nparts ≤ j :=
  (dealt_assignShares nparts ms).share_eq_nil_iff hm

/-- `resolve_consumer_with_partition_id` for a group poll that names no partition: the partition
served is the next of the polling member's own share (or none), and the only change to the topic is
that member's rotation cursor (`Group.poll`). -/
theorem poll_from_own_share (t t' : Topic) (cons : Consumer) (client : Nat) (r : Option Nat)
    (hg : cons.grp = true) (h : t.resolve cons client none true = .ok (r, t')) :
    ∃ g m, find? t.groups cons.id = some g ∧ g.members.find? (fun m => m.id = client) = some m ∧
      m.id = client ∧ r = m.calc.1 ∧ (∀ p, r = some p → p ∈ m.share) ∧
      t' = t.putGroup (g.poll client) := by
  unfold Topic.resolve at h
  simp only [hg, Bool.not_true, Bool.false_eq_true, if_false] at h
  split at h
  · cases h
  · rename_i g hgf
    split at h
    · cases h
    · rename_i m hmf
      simp only [if_true] at h
      cases h
      refine ⟨g, m, hgf, hmf, by simpa using List.find?_some hmf, rfl, fun p hp => m.calc_mem p hp, ?_⟩
      unfold Group.poll
      rw [hmf]

/-! ### group states reachable with polls in between

`Group.Assigned` fixes the rotation cursors at the start of each share, so it describes the group
right after a membership event.  Polls move the cursors; they change neither the members nor their
shares (`Group.SharesAssigned`), and the cursors keep pointing into the shares (`Group.CursorsOk`). -/

/-- A poll by any client changes no member id, no share and not the partition count. -/
theorem poll_keeps_shares (g : Group) (client : Nat) (hnd : (g.members.map (·.id)).Nodup) :
    (g.poll client).members.map Member.key = g.members.map Member.key ∧
    (g.poll client).nparts = g.nparts :=
  ⟨Group.poll_keys g client hnd, Group.poll_nparts g client⟩

/-- Every group state reachable from a new group by joins, leaves, partition-count changes, order
observations (duplicate-free) and polls by any clients in any interleaving: ids and shares are those of
`assign_partitions` for the current partition count and order, ids are pairwise distinct, and every
cursor points into its member's share. -/
theorem reachable_with_polls (g0 : Group) (h0 : g0.members = []) (ops : List GOpP)
    (hops : ∀ op ∈ ops, op.WF) :
    (g0.runP ops).SharesAssigned ∧ ((g0.runP ops).members.map (·.id)).Nodup ∧ (g0.runP ops).CursorsOk := by
  have ha := Group.assigned_of_nil h0
  exact Group.runP_good g0 ops hops ⟨ha.shares, by rw [h0]; exact List.nodup_nil, ha.cursors⟩

/-- 1 with polls in between: each partition is owned by exactly one position and exactly one client. -/
theorem reachable_with_polls_exclusive (g0 : Group) (h0 : g0.members = []) (ops : List GOpP)
    (hops : ∀ op ∈ ops, op.WF) (hne : (g0.runP ops).members ≠ []) (p : Nat)
    (h1 : 1 ≤ p) (h2 : p ≤ (g0.runP ops).nparts) :
    (∃ j : Nat, (∃ m : Member, (g0.runP ops).members[j]? = some m ∧ p ∈ m.share) ∧
      ∀ j' : Nat, (∃ m' : Member, (g0.runP ops).members[j']? = some m' ∧ p ∈ m'.share) → j' = j) ∧
    (∃ id ∈ (g0.runP ops).members.map (·.id),
      ∀ m ∈ (g0.runP ops).members, (p ∈ m.share ↔ m.id = id)) := by
  obtain ⟨ha, hn, _⟩ := reachable_with_polls g0 h0 ops hops
  exact ⟨ha.dealt.cover hne p h1 h2, ha.client hn hne p h1 h2⟩

/-- 2 and 3 with polls in between: only partitions of the topic, ascending, sizes differing by at most
one. -/
theorem reachable_with_polls_even (g0 : Group) (h0 : g0.members = []) (ops : List GOpP)
    (hops : ∀ op ∈ ops, op.WF) :
    (∀ m ∈ (g0.runP ops).members, ∀ p ∈ m.share, 1 ≤ p ∧ p ≤ (g0.runP ops).nparts) ∧
    (∀ m ∈ (g0.runP ops).members, m.share.Pairwise (· < ·)) ∧
    (∀ a ∈ (g0.runP ops).members, ∀ b ∈ (g0.runP ops).members, a.share.length ≤ b.share.length + 1) :=
  have h := (reachable_with_polls g0 h0 ops hops).1.dealt
  ⟨fun _ hm _ hp => h.share_bounds hm hp, fun _ hm => h.share_sorted hm, h.balanced⟩

/-- 5 with polls in between: in every reachable state a member with a non-empty share that polls is
handed a partition of its share (never refused), a member with an empty share none. -/
theorem reachable_with_polls_served (g0 : Group) (h0 : g0.members = []) (ops : List GOpP)
    (hops : ∀ op ∈ ops, op.WF) :
    ∀ m ∈ (g0.runP ops).members,
      (m.share ≠ [] → ∃ p, m.calc.1 = some p ∧ p ∈ m.share) ∧ (m.share = [] → m.calc.1 = none) := by
  obtain ⟨_, _, hc⟩ := reachable_with_polls g0 h0 ops hops
  intro m hm
  refine ⟨fun hne => ?_, fun he => Member.calc_nil m he⟩
  obtain ⟨p, hp⟩ := m.calc_some (hc m hm) hne
  exact ⟨p, hp, m.calc_mem p hp⟩

/-! ## 6: the group as a whole is handed every message once, in offset order

The offset a group has reached on a partition is stored in the partition, keyed by the group id alone
(`grpOffs`; C07): `deliver` below does not even take the polling member as an argument.  So which
member polls — the owner of the partition, a new owner after any join / leave / partition-count
change, or a member naming the partition explicitly — makes no difference to what is handed out
next. -/

/-- one group poll with strategy next and auto-commit on one partition -/
def deliver (p : SPart) (gid count : Nat) : List Msg × SPart :=
  let ms := p.pollNext true gid count
  match ms.getLast? with
  | none => (ms, p)
  | some last => (ms, match p.storeOffset true gid last.off with | .ok p' => p' | .error _ => p)

theorem deliver_cases (p : SPart) (gid count : Nat) (h : p.Inv) :
    ((p.undelivered gid).take count = [] ∧ deliver p gid count = ([], p)) ∨
    ∃ last p', ((p.undelivered gid).take count).getLast? = some last ∧
      p.storeOffset true gid last.off = .ok p' ∧ last.off < p.next ∧
      deliver p gid count = ((p.undelivered gid).take count, p') ∧
      p'.undelivered gid = (p.undelivered gid).drop count := by
  unfold deliver
  simp only [SPart.pollNext_undelivered p gid count h]
  cases hl : ((p.undelivered gid).take count).getLast? with
  | none => exact .inl ⟨List.getLast?_eq_none_iff.mp hl, by rw [List.getLast?_eq_none_iff.mp hl]⟩
  | some last =>
    obtain ⟨hlt, p', hs, hu⟩ := SPart.commit_last p gid count last h hl
    exact .inr ⟨last, p', rfl, hs, hlt, by simp only [hs], hu⟩

/-- One group poll hands out the first `count` messages not yet handed to the group, commits exactly
that (what is left undelivered is the rest, nothing skipped, nothing kept), and touches neither the
messages nor the next offset.  The stored offset stays below the next offset. -/
theorem deliver_spec (p : SPart) (gid count : Nat) (h : p.Inv) :
    (deliver p gid count).1 = (p.undelivered gid).take count ∧
    (deliver p gid count).2.undelivered gid = (p.undelivered gid).drop count ∧
    (deliver p gid count).2.msgs = p.msgs ∧ (deliver p gid count).2.next = p.next ∧
    (deliver p gid count).2.ids = p.ids ∧
    ((∀ o, p.getOffset true gid = some o → o < p.next) →
      ∀ o, (deliver p gid count).2.getOffset true gid = some o → o < p.next) := by
  rcases deliver_cases p gid count h with ⟨he, hd⟩ | ⟨last, p', _, hs, hlt, hd, hu⟩ <;> rw [hd]
  · have := List.take_append_drop count (p.undelivered gid)
    rw [he] at this
    exact ⟨he.symm, this.symm, rfl, rfl, rfl, id⟩
  · obtain ⟨hm, hn, hi⟩ := SPart.storeOffset_msgs p p' true gid last.off hs
    refine ⟨rfl, hu, hm, hn, hi, fun _ o ho => ?_⟩
    rw [SPart.get_after_store p p' true gid last.off hs] at ho
    cases ho; exact hlt

/-- The committed offset after a non-empty group poll is the offset of the last message handed out;
an empty poll changes nothing. -/
theorem deliver_commits (p : SPart) (gid count : Nat) (h : p.Inv) :
    (∀ last, (deliver p gid count).1.getLast? = some last →
      (deliver p gid count).2.getOffset true gid = some last.off) ∧
    ((deliver p gid count).1 = [] → (deliver p gid count).2 = p) := by
  rcases deliver_cases p gid count h with ⟨_, hd⟩ | ⟨last, p', hl, hs, _, hd, _⟩ <;> rw [hd]
  · exact ⟨fun _ h' => (nomatch h'), fun _ => rfl⟩
  · refine ⟨fun l h' => ?_, fun he => ?_⟩
    · cases hl.symm.trans h'
      exact SPart.get_after_store p p' true gid _ hs
    · rw [show (p.undelivered gid).take count = [] from he] at hl; cases hl

/-- Progress: while something is undelivered, a group poll asking for at least one message gets at
least one. -/
theorem delivery_progress (p : SPart) (gid count : Nat) (h : p.Inv) (hc : 0 < count)
    (hu : p.undelivered gid ≠ []) : (deliver p gid count).1 ≠ [] := by
  rw [(deliver_spec p gid count h).1]
  intro he
  rcases List.take_eq_nil_iff.mp he with h0 | h0
  · omega
  · exact hu h0

/-- A group poll asking for at least as many messages as are undelivered drains the partition. -/
theorem delivery_drains (p : SPart) (gid count : Nat) (h : p.Inv)
    (hc : (p.undelivered gid).length ≤ count) :
    (deliver p gid count).1 = p.undelivered gid ∧ (deliver p gid count).2.undelivered gid = [] := by
  obtain ⟨h1, h2, _⟩ := deliver_spec p gid count h
  rw [h1, h2]
  exact ⟨List.take_of_length_le hc, List.drop_eq_nil_of_le hc⟩

theorem groupInv_deliver {gid : Nat} {p : SPart} {d : List Msg} (h : SPart.GroupInv gid p d)
    (count : Nat) : SPart.GroupInv gid (deliver p gid count).2 (d ++ (deliver p gid count).1) := by
  obtain ⟨d1, d2, d3, d4, _, d6⟩ := deliver_spec p gid count h.1
  exact h.deliver _ _ count d1 d2 d3 d4 d6

/-- what happens to a partition between and during group polls: anyone appends, some member of the
group polls (`next`, auto-commit), retention removes the `n` oldest messages -/
inductive GEv
  | append (now : Nat) (msgs : List InMsg)
  | deliver (count : Nat)
  | drop (n : Nat)
deriving Repr, DecidableEq

/-- the partition, everything handed to the group so far (in the order handed out), and everything
the partition ever held -/
structure GState where
  part : SPart
  delivered : List Msg
  accepted : List Msg
deriving Repr, DecidableEq

def gstep (gid : Nat) (s : GState) : GEv → GState
  | .append now msgs =>
    { s with part := s.part.append now msgs,
             accepted := s.accepted ++ (number s.part.ids s.part.next now msgs 0 []).2 }
  | .deliver count =>
    { s with part := (deliver s.part gid count).2, delivered := s.delivered ++ (deliver s.part gid count).1 }
  | .drop n => { s with part := s.part.dropPrefix n }

def grun (gid : Nat) (p0 : SPart) (evs : List GEv) : GState :=
  evs.foldl (gstep gid) { part := p0, delivered := [], accepted := p0.msgs }

def GEv.isDrop : GEv → Bool
  | .drop _ => true
  | _ => false

/-- Without retention: however appends (by anyone) and group polls (by any members, any counts)
interleave, what the group has been handed so far, in the order it was handed out, followed by what
is still undelivered, is exactly the partition's message list — so the delivered messages are a prefix
of it: offset order, none skipped, none twice. -/
theorem delivered_exact (gid : Nat) (p0 : SPart) (h0 : p0.Inv) (hoff : p0.getOffset true gid = none)
    (evs : List GEv) (hnd : ∀ e ∈ evs, e.isDrop = false) :
    (grun gid p0 evs).delivered ++ (grun gid p0 evs).part.undelivered gid = (grun gid p0 evs).part.msgs ∧
    (grun gid p0 evs).part.msgs = (grun gid p0 evs).accepted := by
  have H := List.foldlRecOn evs (gstep gid) (b := ⟨p0, [], p0.msgs⟩)
    (motive := fun s : GState => SPart.GroupInv gid s.part s.delivered ∧ s.part.msgs = s.accepted)
    ⟨SPart.GroupInv.init gid p0 h0 hoff, rfl⟩ <| by
    rintro s ⟨hi, ha⟩ e he
    cases e with
    | append now msgs => exact ⟨hi.append now msgs, congrArg (· ++ _) ha⟩
    | deliver count => exact ⟨groupInv_deliver hi count, (deliver_spec _ gid count hi.1).2.2.1.trans ha⟩
    | drop n => cases hnd _ he
  exact ⟨H.1.2.1, H.2⟩

/-- `delivered_exact` as the plain prefix statement. -/
theorem delivered_prefix (gid : Nat) (p0 : SPart) (h0 : p0.Inv) (hoff : p0.getOffset true gid = none)
    (evs : List GEv) (hnd : ∀ e ∈ evs, e.isDrop = false) :
    (grun gid p0 evs).delivered <+: (grun gid p0 evs).part.msgs :=
  ⟨_, (delivered_exact gid p0 h0 hoff evs hnd).1⟩

/-- With retention in play (`drop` events, any number of messages, at any time): the messages handed
to the group so far, followed by the still undelivered ones, form a sublist of everything the
partition ever held — the order of acceptance is kept and no message occurs twice; what is missing
was removed by retention before the group got to it.  The accepted messages carry gap-free ascending
offsets. -/
theorem delivered_sublist (gid : Nat) (p0 : SPart) (h0 : p0.Inv) (hoff : p0.getOffset true gid = none)
    (evs : List GEv) :
    ((grun gid p0 evs).delivered ++ (grun gid p0 evs).part.undelivered gid).Sublist
      (grun gid p0 evs).accepted ∧
    (∃ lo, consecutiveFrom lo (grun gid p0 evs).accepted) := by
  -- `{ s.part with msgs := s.accepted }` is the partition had retention never run; it keeps `SPart.Inv` too
  have H := List.foldlRecOn evs (gstep gid) (b := ⟨p0, [], p0.msgs⟩)
    (motive := fun s : GState => s.part.Inv ∧ (∀ o, s.part.getOffset true gid = some o → o < s.part.next) ∧
      ({ s.part with msgs := s.accepted } : SPart).Inv ∧
      (s.delivered ++ s.part.undelivered gid).Sublist s.accepted)
    ⟨h0, fun o ho => (by rw [hoff] at ho; cases ho), h0, by simp [SPart.undelivered, hoff]⟩ <| by
    rintro s ⟨hi, ho, ha, hs⟩ e _
    cases e with
    | append now msgs =>
      refine ⟨SPart.append_inv _ now msgs hi, SPart.append_offset_lt ho now msgs, SPart.append_inv _ now msgs ha, ?_⟩
      show (s.delivered ++ (s.part.append now msgs).undelivered gid).Sublist (s.accepted ++ _)
      rw [SPart.undelivered_append s.part gid now msgs ho, ← List.append_assoc]
      exact hs.append (.refl _)
    | deliver count =>
      obtain ⟨d1, d2, d3, d4, _, d6⟩ := deliver_spec s.part gid count hi
      simp only [gstep]
      refine ⟨by unfold SPart.Inv; rw [d3, d4]; exact hi, d4 ▸ d6 ho, by unfold SPart.Inv; rw [d4]; exact ha, ?_⟩
      rw [d1, d2, List.append_assoc, List.take_append_drop]; exact hs
    | drop n =>
      exact ⟨SPart.dropPrefix_inv _ n hi, ho, ha,
        ((SPart.undelivered_dropPrefix s.part gid n).append_left _).trans hs⟩
  obtain ⟨_, _, ⟨lo, hc, _⟩, hs⟩ := H
  exact ⟨hs, lo, hc⟩

/-- Whatever appends, polls and retention runs happened: the messages handed to the group are
messages the partition accepted, in strictly increasing offset order — in particular none twice and
never out of order. -/
theorem delivered_increasing (gid : Nat) (p0 : SPart) (h0 : p0.Inv) (hoff : p0.getOffset true gid = none)
    (evs : List GEv) :
    (grun gid p0 evs).delivered.Sublist (grun gid p0 evs).accepted ∧
    (grun gid p0 evs).delivered.Pairwise (fun a b => a.off < b.off) := by
  obtain ⟨h1, lo, h2⟩ := delivered_sublist gid p0 h0 hoff evs
  have hs := (List.sublist_append_left _ _).trans h1
  exact ⟨hs, h2.pairwise.sublist hs⟩

/-! ### the whole topic: members come and go, any of them polls, anyone appends -/

/-- a topic with one consumer group: the group, and for partitions 1, 2, … the abstract partition with
what the group has been handed from it so far -/
structure TState where
  group : Group
  parts : List (SPart × List Msg)

/-- a membership / partition-count / order event of the group; an append by anyone to partition `pid`;
a poll (`next`, auto-commit) by `client`, naming a partition or leaving the choice to the rotation -/
inductive TEv
  | member (op : GOp)
  | append (pid now : Nat) (msgs : List InMsg)
  | poll (client : Nat) (pid : Option Nat) (count : Nat)

def pollEntry (gid count : Nat) (x : SPart × List Msg) : SPart × List Msg :=
  ((deliver x.1 gid count).2, x.2 ++ (deliver x.1 gid count).1)

/-- `Topic.resolve` followed by the poll: a named partition is polled as is; otherwise the partition
comes from the polling member's rotation (a non-member is refused, a member without partitions gets
nothing) -/
def tstep (gid : Nat) (s : TState) : TEv → TState
  | .member op => { s with group := s.group.step op }
  | .append pid now msgs => { s with parts := modAt s.parts pid (fun x => (x.1.append now msgs, x.2)) }
  | .poll _ (some pid) count => { s with parts := modAt s.parts pid (pollEntry gid count) }
  | .poll client none count =>
    match s.group.members.find? (fun m => m.id = client) with
    | none => s
    | some m =>
      match m.calc.1 with
      | none => { s with group := s.group.poll client }
      | some pid => { group := s.group.poll client, parts := modAt s.parts pid (pollEntry gid count) }

def trun (gid : Nat) (s0 : TState) (evs : List TEv) : TState := evs.foldl (tstep gid) s0

/-- The group as a whole, over all partitions of the topic: whatever members join and leave, however
the partition count of the group and the member order change, whichever members poll (naming a
partition or not, any counts) and whoever appends, in any interleaving — for every partition, what the
group has been handed from it, followed by what is still undelivered, is exactly that partition's
message list: offset order, nothing skipped, nothing twice. -/
theorem topic_delivered_prefix (gid : Nat) (s0 : TState)
    (h0 : ∀ x ∈ s0.parts, x.1.Inv ∧ x.1.getOffset true gid = none ∧ x.2 = []) (evs : List TEv) :
    ∀ x ∈ (trun gid s0 evs).parts,
      x.2 ++ x.1.undelivered gid = x.1.msgs ∧ x.2 <+: x.1.msgs := by
  have H := List.foldlRecOn evs (tstep gid)
    (motive := fun s => ∀ x ∈ s.parts, SPart.GroupInv gid x.1 x.2)
    (fun y hy => by
      obtain ⟨a, b, c⟩ := h0 y hy
      exact c ▸ SPart.GroupInv.init gid y.1 a b) <| by
    intro s hs e _
    -- the parts change by `modAt` only, with a map that keeps the invariant
    have hpoll := fun pid count =>
      forall_modAt (f := pollEntry gid count) hs (fun _ hy => groupInv_deliver hy count) pid
    cases e with
    | member op => exact hs
    | append pid now msgs =>
      exact forall_modAt (f := fun x => (x.1.append now msgs, x.2)) hs (fun _ hy => hy.append now msgs) pid
    | poll client pid count =>
      cases pid with
      | some pid => exact hpoll pid count
      | none =>
        simp only [tstep]
        split
        · exact hs
        · split
          · exact hs
          · exact hpoll _ count
  exact fun x hx => ⟨(H x hx).2.1, _, (H x hx).2.1⟩

/-! ## non-vacuity -/

def mem (id : Nat) : Member := { id := id, share := [], idx := none, cur := none }

/-- 3 members, 7 partitions -/
example : (assignShares 7 [mem 10, mem 20, mem 30]).map (fun m => (m.id, m.share)) =
    [(10, [1, 4, 7]), (20, [2, 5]), (30, [3, 6])] := by decide +kernel

/-- the order matters for who gets what, not for the properties -/
example : (assignShares 7 [mem 30, mem 10, mem 20]).map (fun m => (m.id, m.share)) =
    [(30, [1, 4, 7]), (10, [2, 5]), (20, [3, 6])] := by decide +kernel

/-- 3 members, 2 partitions: the third member has nothing and is told so -/
example : (assignShares 2 [mem 10, mem 20, mem 30]).map (fun m => (m.id, m.share, m.calc.1)) =
    [(10, [1], some 1), (20, [2], some 2), (30, [], none)] := by decide +kernel

/-- rotation of the first member of the 7-partition example -/
example : (List.range 7).map (fun k => (calcIter (Member.fresh 10 [1, 4, 7]) k).1) =
    [some 1, some 4, some 7, some 1, some 4, some 7, some 1] := by decide +kernel

/-- a history: joins, a leave, a change of the partition count -/
example : ((Group.mk 1 "g" 3 []).run [.join 1, .join 2, .setParts 5, .join 3, .leave 1, .adopt [3, 2]]
    ).members.map (fun m => (m.id, m.share)) = [(3, [1, 3, 5]), (2, [2, 4])] := by decide +kernel
example : specIds [.join 1, .join 2, .setParts 5, .join 3, .leave 1, .adopt [3, 2]] = [2, 3] := by decide +kernel

/-- a history with polls in between -/
example : ((Group.mk 1 "g" 5 []).runP [.op (.join 1), .op (.join 2), .poll 1, .poll 1, .poll 2, .op (.join 3),
    .poll 3, .poll 1]).members.map (fun m => (m.id, m.share, m.idx)) =
    [(1, [1, 4], some 1), (2, [2, 5], some 0), (3, [3], some 0)] := by decide +kernel

/-- a group (id 7) on one partition: appends and polls interleaved, every message once, in order -/
def exP : SPart := SPart.create exCfg none
def exEvs : List GEv :=
  [.append 5 [⟨1, 50, 1⟩, ⟨2, 50, 2⟩, ⟨3, 50, 3⟩], .deliver 2, .append 6 [⟨4, 50, 4⟩], .deliver 1,
   .deliver 5, .deliver 5]
example : (grun 7 exP exEvs).delivered.map (·.off) = [0, 1, 2, 3] := by decide +kernel
example : (grun 7 exP exEvs).delivered = (grun 7 exP exEvs).part.msgs := by decide +kernel
example : (grun 7 exP exEvs).part.getOffset true 7 = some 3 := by decide +kernel
example : exP.Inv ∧ exP.getOffset true 7 = none ∧ ∀ e ∈ exEvs, e.isDrop = false :=
  ⟨SPart.create_inv _ _, by decide +kernel, by decide +kernel⟩

/-- with retention removing messages 0 and 1 before the group got to message 1 -/
def exEvsR : List GEv :=
  [.append 5 [⟨1, 50, 1⟩, ⟨2, 50, 2⟩, ⟨3, 50, 3⟩], .deliver 1, .drop 2, .append 6 [⟨4, 50, 4⟩], .deliver 5]
example : (grun 7 exP exEvsR).delivered.map (·.off) = [0, 2, 3] ∧
    (grun 7 exP exEvsR).accepted.map (·.off) = [0, 1, 2, 3] := by decide +kernel

/-- a topic with two partitions: members 1 and 2 join, poll by rotation, member 1 leaves, member 2
takes over partition 1 where the group had stopped -/
def exT : TState := { group := Group.mk 7 "g" 2 [], parts := [(exP, []), (exP, [])] }
def exTEvs : List TEv :=
  [.member (.join 1), .member (.join 2),
   .append 1 5 [⟨1, 50, 1⟩, ⟨2, 50, 2⟩, ⟨3, 50, 3⟩], .append 2 5 [⟨4, 50, 4⟩],
   .poll 1 none 2, .poll 2 none 5, .member (.leave 1), .poll 2 none 5, .poll 2 none 5, .poll 2 none 5]
example : (trun 7 exT exTEvs).parts.map (fun x => x.2.map (·.off)) = [[0, 1, 2], [0]] ∧
    (trun 7 exT exTEvs).parts.map (fun x => x.1.msgs.map (·.off)) = [[0, 1, 2], [0]] := by decide +kernel

end Iggy.Props.C08

/-
Histories of L1 operations as data (`POp`, `Part.runOps`): every admissible history ends in a reachable
state, so `Reach.refines` (Refine.lean) applies to it.  Then the corollaries about reachable L1 states
that the properties need (C01, C02, C14, C16, C18, C03).
-/
import Iggy.Log.Refine
namespace Iggy.Log

variable {cfg : Cfg} {p : Part}

inductive POp
  | append (now : Nat) (msgs : List InMsg)
  | flush
  | save
  | restart (now cacheLen : Nat)
  | purge (now : Nat)
  | expire (now : Nat)
  | deleteOldest (now : Nat)
  | evict (keep : Nat)
  | storeOffset (grp : Bool) (cid off : Nat)
  | deleteOffset (grp : Bool) (cid : Nat)
deriving Repr

def Part.stepOp (cfg : Cfg) (p : Part) : POp → Part
  | .append now msgs => match p.append cfg now msgs with | .ok p' => p' | .error _ => p
  | .flush => p.flush cfg
  | .save => p.save cfg
  | .restart now cacheLen => p.restart cfg now cacheLen
  | .purge now => p.purge cfg now
  | .expire now => p.expire cfg now
  | .deleteOldest now => p.deleteOldest cfg now
  | .evict keep => p.evict keep
  | .storeOffset grp cid off => match p.storeOffset grp cid off with | .ok p' => p' | .error _ => p
  | .deleteOffset grp cid => match p.deleteOffset grp cid with | .ok p' => p' | .error _ => p

def Part.runOps (cfg : Cfg) (p : Part) (ops : List POp) : Part := ops.foldl (Part.stepOp cfg) p

/-- side conditions of an operation in a state: every message occupies at least one byte, and the
clock is never behind a stored message -/
def POp.admissible (p : Part) : POp → Prop
  | .append now msgs => (∀ m ∈ msgs, 0 < m.size) ∧ ∀ m ∈ p.msgs, m.ts ≤ now
  | .restart now _ => ∀ m ∈ p.msgs, m.ts ≤ now
  | _ => True

def Part.admissibleRun (cfg : Cfg) : Part → List POp → Prop
  | _, [] => True
  | p, op :: rest => op.admissible p ∧ Part.admissibleRun cfg (p.stepOp cfg op) rest

instance (p : Part) : (op : POp) → Decidable (op.admissible p)
  | .append now msgs => inferInstanceAs (Decidable ((∀ m ∈ msgs, 0 < m.size) ∧ ∀ m ∈ p.msgs, m.ts ≤ now))
  | .restart now _ => inferInstanceAs (Decidable (∀ m ∈ p.msgs, m.ts ≤ now))
  | .flush | .save | .purge _ | .expire _ | .deleteOldest _ | .evict _ | .storeOffset .. | .deleteOffset .. =>
    isTrue trivial

instance admissibleRunDecidable (cfg : Cfg) : (p : Part) → (ops : List POp) → Decidable (Part.admissibleRun cfg p ops)
  | _, [] => isTrue trivial
  | p, op :: rest =>
    have := admissibleRunDecidable cfg (p.stepOp cfg op) rest
    inferInstanceAs (Decidable (op.admissible p ∧ Part.admissibleRun cfg (p.stepOp cfg op) rest))

/-- a step that may fail: reachable if it succeeds, unchanged if not
(`generalizing := false` keeps `h` out of the match, which is then the match in `Part.stepOp`) -/
theorem Reach.except (r : Reach cfg p) {f : Except Err Part} (h : ∀ p', f = .ok p' → Reach cfg p') :
    Reach cfg (match (generalizing := false) f with | .ok p' => p' | .error _ => p) := by
  cases f with
  | ok p' => exact h p' rfl
  | error _ => exact r

theorem Reach.stepOp (r : Reach cfg p) (op : POp) (ha : op.admissible p) : Reach cfg (p.stepOp cfg op) := by
  cases op with
  | append now msgs => exact r.except fun _ hp => Reach.append now msgs r ha.1 ha.2 hp
  | flush => exact r.flush
  | save => exact r.save
  | restart now cacheLen => exact Reach.restart now cacheLen r ha
  | purge now => exact Reach.purge now r
  | expire now => exact Reach.expire now r
  | deleteOldest now => exact Reach.deleteOldest now r
  | evict keep => exact Reach.evict keep r
  | storeOffset grp cid off => exact r.except fun _ hp => Reach.storeOffset grp cid off r hp
  | deleteOffset grp cid => exact r.except fun _ hp => Reach.deleteOffset grp cid r hp

theorem Reach.runOps (r : Reach cfg p) (ops : List POp) (ha : Part.admissibleRun cfg p ops) :
    Reach cfg (p.runOps cfg ops) := by
  induction ops generalizing p with
  | nil => exact r
  | cons op rest ih => exact ih (r.stepOp op ha.1) ha.2

theorem reach_of_run (e : Option Nat) (now0 : Nat) (ops : List POp)
    (ha : Part.admissibleRun cfg (Part.create cfg e now0) ops) :
    Reach cfg ((Part.create cfg e now0).runOps cfg ops) :=
  (Reach.create e now0).runOps ops ha

/-- The abstract history consists of `append`s, `purge`s, `drop`s (retention), `restart`s and offset
stores/deletes; `flush`, `save`, `evict` are invisible in it.  Its run equals `abs p` in all fields, the
dedup id set included. -/
theorem Reach.simulates (hseg : 0 < cfg.segSize) (r : Reach cfg p) :
    ∃ (e0 : Option Nat) (sops : List SOp), abs p = SPart.run cfg e0 sops := (r.refines hseg).2

theorem runOps_simulates (hseg : 0 < cfg.segSize) (e : Option Nat) (now0 : Nat) (ops : List POp)
    (ha : Part.admissibleRun cfg (Part.create cfg e now0) ops) :
    ((Part.create cfg e now0).runOps cfg ops).Inv cfg ∧
      ∃ (e0 : Option Nat) (sops : List SOp),
        abs ((Part.create cfg e now0).runOps cfg ops) = SPart.run cfg e0 sops :=
  (reach_of_run e now0 ops ha).refines hseg

/-! ## corollaries for reachable L1 states

The specification's invariants need no detour through the simulation: they are clauses of `Part.Inv`
(`msgs_consecutive` through the segment chain, `dedupIds`). -/

theorem reach_offsets_firstStart (hseg : 0 < cfg.segSize) (r : Reach cfg p) :
    p.msgs.map (·.off) = List.range' p.firstStart p.msgs.length ∧
      p.firstStart + p.msgs.length = p.next :=
  ⟨consecutiveFrom_map_off _ _ (r.inv hseg).msgs_consecutive, (r.inv hseg).tiled'.2⟩

theorem reach_offsets_consecutive (hseg : 0 < cfg.segSize) (r : Reach cfg p) :
    ∃ lo, p.msgs.map (·.off) = List.range' lo p.msgs.length ∧ lo + p.msgs.length = p.next :=
  ⟨p.firstStart, reach_offsets_firstStart hseg r⟩

theorem reach_poll_exact (hseg : 0 < cfg.segSize) (r : Reach cfg p) {off count : Nat} (hc : 0 < count) :
    p.getByOffset off count =
      p.msgs.filter (fun m => max off p.firstStart ≤ m.off ∧ m.off < max off p.firstStart + count) :=
  (getByOffset_refines (r.inv hseg) hc).trans (readPart_pollOffset (r.inv hseg) off count)

/-- `reach_poll_exact` for any `lo` as in `reach_offsets_consecutive` -/
theorem reach_poll_exact' (hseg : 0 < cfg.segSize) (r : Reach cfg p) {off count lo : Nat} (hc : 0 < count)
    (hlo : p.msgs.map (·.off) = List.range' lo p.msgs.length) :
    p.getByOffset off count =
      p.msgs.filter (fun m => max off lo ≤ m.off ∧ m.off < max off lo + count) := by
  rw [reach_poll_exact hseg r hc]
  have h1 := (r.inv hseg).msgs_consecutive
  cases hm : p.msgs with
  | nil => rfl
  | cons f rest =>
    -- a non-empty log fixes `lo`: both are the first retained offset
    rw [hm] at h1 hlo
    simp only [List.map_cons, List.length_cons, List.range'_succ, List.cons.injEq] at hlo
    rw [← h1.1, ← hlo.1]

theorem reach_poll_sublist (hseg : 0 < cfg.segSize) (r : Reach cfg p) {off count : Nat} (hc : 0 < count) :
    (p.getByOffset off count).Sublist p.msgs := by
  rw [getByOffset_refines (r.inv hseg) hc]
  exact SPart.pollOffset_sublist (abs p) off count

theorem reach_ids_nodup (hseg : 0 < cfg.segSize) (r : Reach cfg p) (hd : p.dedup.isSome) :
    (p.msgs.map (·.id)).Nodup := by
  obtain ⟨ids, hids⟩ := Option.isSome_iff_exists.1 hd
  exact ((r.inv hseg).dedupIds ids hids).2

theorem reach_ids_remembered (hseg : 0 < cfg.segSize) (r : Reach cfg p) {ids : List Nat}
    (hd : p.dedup = some ids) : ∀ m ∈ p.msgs, m.id ∈ ids :=
  ((r.inv hseg).dedupIds ids hd).1

/-! ## C16: reported sizes and counts equal what is stored -/

def Part.buffered (p : Part) : List Msg := (p.segs.map Seg.accMsgs).flatten

theorem sum_sizeBytes_eq {l : List Seg} (h : ∀ s ∈ l, s.Inv cfg) :
    (l.map (·.sizeBytes)).sum =
      (l.map (fun s => logBytes s.log)).sum + sumSizes (l.map Seg.accMsgs).flatten := by
  induction l with
  | nil => rfl
  | cons s l ih =>
    have hs := (h s (by simp)).size
    have := ih (fun t ht => h t (by simp [ht]))
    simp only [List.map_cons, List.sum_cons, List.flatten_cons, sumSizes_append]
    omega

theorem reach_counts (hseg : 0 < cfg.segSize) (r : Reach cfg p) :
    p.cnt.msgs = p.msgs.length ∧ p.cnt.segs = p.segs.length ∧
      p.cnt.size = (p.segs.map (·.sizeBytes)).sum :=
  ⟨(r.inv hseg).cntMsgs, (r.inv hseg).cntSegs, (r.inv hseg).cntSize⟩

theorem reach_size_exact (hseg : 0 < cfg.segSize) (r : Reach cfg p) :
    p.cnt.size = (p.segs.map (fun s => logBytes s.log)).sum + sumSizes p.buffered := by
  rw [(r.inv hseg).cntSize]; exact sum_sizeBytes_eq (r.inv hseg).segs

theorem reach_seg_counts (hseg : 0 < cfg.segSize) (r : Reach cfg p) {s : Seg} (hs : s ∈ p.segs) :
    s.sizeBytes = logBytes s.log + sumSizes s.accMsgs ∧ s.msgCount = s.msgs.length ∧
      s.lastIdxPos = logBytes s.log := by
  have h := r.inv hseg
  refine ⟨(h.segs s hs).size, (h.segs s hs).msgCount ?_, (h.segs s hs).pos⟩
  intro m hm
  exact h.sizes m (by rw [Part.msgs_eq]; exact mem_segsMsgs.2 ⟨s, hs, hm⟩)

/-! ## C03: a restart finds what was acknowledged, and reports the same figures -/

theorem reach_restart_same (hseg : 0 < cfg.segSize) (r : Reach cfg p) {now : Nat}
    (hnow : ∀ m ∈ p.msgs, m.ts ≤ now) (n : Nat) :
    (p.restart cfg now n).msgs = p.msgs ∧ (p.restart cfg now n).next = p.next ∧
      (p.restart cfg now n).consOffs = p.consOffs ∧ (p.restart cfg now n).grpOffs = p.grpOffs ∧
      (p.restart cfg now n).expiry = p.expiry ∧
      (p.restart cfg now n).cnt.msgs = p.cnt.msgs ∧
      (p.restart cfg now n).cnt.size = (p.save cfg).cnt.size ∧
      (p.restart cfg now n).cnt.segs = p.cnt.segs := by
  have h := r.inv hseg
  have habs := (restart_refines h hnow n).2
  have hc := Part.restart_cnt h hnow n
  exact ⟨congrArg SPart.msgs habs, congrArg SPart.next habs, congrArg SPart.consOffs habs,
    congrArg SPart.grpOffs habs, congrArg SPart.expiry habs, by rw [hc]; rfl, by rw [hc], by rw [hc]; rfl⟩

theorem reach_restart_poll (hseg : 0 < cfg.segSize) (r : Reach cfg p) {now : Nat}
    (hnow : ∀ m ∈ p.msgs, m.ts ≤ now) (n : Nat) {off count : Nat} (hc : 0 < count) :
    (p.restart cfg now n).getByOffset off count = p.getByOffset off count := by
  have h := r.inv hseg
  obtain ⟨hinv, habs⟩ := restart_refines h hnow n
  rw [getByOffset_refines hinv hc, getByOffset_refines h hc, habs]
  rfl

/-! ## non-vacuity: a concrete admissible history (appends with a duplicate id, persist on threshold,
segment roll-over, retention, offsets, restart) -/

def rxOps : List POp :=
  [.append 1 [rxIn 1], .append 2 [rxIn 2, rxIn 1, rxIn 3], .append 3 [rxIn 4, rxIn 5], .append 4 [rxIn 6],
   .storeOffset false 7 5, .deleteOldest 5, .evict 1, .restart 6 2, .append 7 [rxIn 2, rxIn 7]]

theorem rxOps_admissible : Part.admissibleRun rxCfg (Part.create rxCfg none 0) rxOps := by decide

example : Part.admissibleRun rxCfg (Part.create rxCfg none 0) rxOps := rxOps_admissible
example : Reach rxCfg ((Part.create rxCfg none 0).runOps rxCfg rxOps) := reach_of_run none 0 rxOps rxOps_admissible
example : ((Part.create rxCfg none 0).runOps rxCfg rxOps).msgs.map (fun m => (m.off, m.id)) =
    [(5, 6), (6, 2), (7, 7)] := by decide
example : ((Part.create rxCfg none 0).runOps rxCfg rxOps).Inv rxCfg := by decide

end Iggy.Log

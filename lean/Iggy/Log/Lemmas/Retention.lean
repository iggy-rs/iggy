/-
Retention (`Part.expire`, `Part.deleteOldest`, both via `Part.deleteSegments`) refines the spec's
`SPart.dropPrefix`, preserves the invariant and is legal: only messages of closed (and, for `expire`,
expired) segments are dropped.
-/
import Iggy.Log.Lemmas.ReadSeg
import Iggy.Log.Lemmas.Persist
namespace Iggy.Log

/-- one round of the loop in `delete_segments` -/
def Part.delStep (acc : Part × Nat) (st : Nat) : Part × Nat :=
  match acc.1.segs.find? (fun s => s.start = st) with
  | none => acc
  | some s =>
    ({ acc.1 with segs := acc.1.segs.filter (fun t => t.start ≠ st)
                  cnt := acc.1.cnt.subSeg s }, s.endOff)

theorem Part.deleteSegments_eq (cfg : Cfg) (p : Part) (starts : List Nat) (now : Nat) :
    p.deleteSegments cfg starts now =
      if starts.isEmpty then (starts.foldl Part.delStep (p, 0)).1
      else if (starts.foldl Part.delStep (p, 0)).1.segs.isEmpty then
        (starts.foldl Part.delStep (p, 0)).1.addSegment cfg ((starts.foldl Part.delStep (p, 0)).2 + 1) now
      else (starts.foldl Part.delStep (p, 0)).1 := rfl

def Part.withSegs (p : Part) (segs : List Seg) (cnt : Counters) : Part :=
  { p with segs := segs, cnt := cnt }

@[simp] theorem Part.withSegs_segs (p : Part) (segs : List Seg) (cnt : Counters) :
    (p.withSegs segs cnt).segs = segs := rfl
@[simp] theorem Part.withSegs_cnt (p : Part) (segs : List Seg) (cnt : Counters) :
    (p.withSegs segs cnt).cnt = cnt := rfl
@[simp] theorem Part.withSegs_withSegs (p : Part) (s1 s2 : List Seg) (c1 c2 : Counters) :
    (p.withSegs s1 c1).withSegs s2 c2 = p.withSegs s2 c2 := rfl

theorem Part.withSegs_msgs (p : Part) (segs : List Seg) (cnt : Counters) :
    (p.withSegs segs cnt).msgs = segsMsgs segs := rfl

theorem Part.withSegs_next (p : Part) (segs : List Seg) (cnt : Counters) :
    (p.withSegs segs cnt).next = p.next := rfl

theorem Part.delStep_head {q : Part} {e : Nat} {s : Seg} {rest : List Seg} (hs : q.segs = s :: rest)
    (hlt : ∀ t ∈ rest, s.start < t.start) :
    Part.delStep (q, e) s.start = (q.withSegs rest (q.cnt.subSeg s), s.endOff) := by
  have hfind : q.segs.find? (fun t => t.start = s.start) = some s := by rw [hs]; simp
  have hfilter : q.segs.filter (fun t => t.start ≠ s.start) = rest := by
    rw [hs, List.filter_cons_of_neg (by simp)]
    exact List.filter_eq_self.2 fun t ht => by have := hlt t ht; simp; omega
  simp only [Part.delStep, hfind, hfilter]
  rfl

theorem Part.foldl_delStep_prefix {q : Part} {e : Nat} {pre post : List Seg} (hs : q.segs = pre ++ post)
    (hpw : q.segs.Pairwise (fun x y => x.start < y.start)) :
    (pre.map (·.start)).foldl Part.delStep (q, e) =
      (q.withSegs post (pre.foldl Counters.subSeg q.cnt), (pre.getLast?.map (·.endOff)).getD e) := by
  induction pre generalizing q e with
  | nil => rw [List.nil_append] at hs; rw [← hs]; rfl
  | cons s r ih =>
    rw [hs] at hpw
    rw [List.cons_append] at hs hpw
    have hpw' := List.pairwise_cons.1 hpw
    rw [List.map_cons, List.foldl_cons, Part.delStep_head hs hpw'.1,
      ih (q := q.withSegs (r ++ post) (q.cnt.subSeg s)) rfl hpw'.2]
    by_cases hr : r = []
    · subst hr; rfl
    · simp [List.getLast?_cons]

section
variable {cfg : Cfg} {p : Part} (h : p.Inv cfg)
include h

theorem Part.Inv.segs_pairwise : p.segs.Pairwise (fun x y => x.closed = true ∧ x.start < y.start) :=
  h.tiled'.1.pairwise h.segs h.segSize

theorem Part.Inv.withSegs {segs' : List Seg} {n : Nat}
    (hsegs : ∀ s ∈ segs', s.Inv cfg) (hchain : Iggy.Log.chain segs' p.next)
    (hmsgs : segsMsgs segs' = p.msgs.drop n) :
    let p' := p.withSegs segs'
      { msgs := (segsMsgs segs').length, size := (segs'.map (·.sizeBytes)).sum, segs := segs'.length }
    p'.Inv cfg ∧ abs p' = (abs p).dropPrefix n ∧ p'.next = p.next :=
  ⟨h.of_drop_msgs rfl hmsgs hsegs hchain rfl rfl rfl,
    by simp only [abs, SPart.dropPrefix, Part.withSegs_msgs, hmsgs]; rfl, rfl⟩

/-- what `delete_segments` does when it is given the start offsets of a closed prefix of the segment
list (both `expire` and `deleteOldest` do that) -/
theorem Part.deleteSegments_prefix {pre post : List Seg}
    (hs : p.segs = pre ++ post) (hcl : ∀ s ∈ pre, s.closed = true) (now : Nat) :
    (p.deleteSegments cfg (pre.map (·.start)) now).Inv cfg ∧
      abs (p.deleteSegments cfg (pre.map (·.start)) now) = (abs p).dropPrefix (segsMsgs pre).length ∧
      (p.deleteSegments cfg (pre.map (·.start)) now).next = p.next := by
  have hdrop : p.msgs.drop (segsMsgs pre).length = segsMsgs post := by
    rw [Part.msgs_eq, hs, segsMsgs_append, List.drop_left]
  rw [Part.deleteSegments_eq,
    Part.foldl_delStep_prefix hs (h.segs_pairwise.imp fun hxy => hxy.2), h.foldl_subSeg hs]
  simp only [Part.withSegs_segs, List.isEmpty_iff, List.map_eq_nil_iff]
  by_cases hpost : post = []
  · -- everything is deleted: the last deleted segment ends at `next - 1`
    subst hpost
    rw [List.append_nil] at hs
    obtain ⟨init, last, rfl⟩ := exists_snoc_of_ne_nil (hs ▸ h.segs_ne_nil)
    have hend : ((init ++ [last]).getLast?.map (·.endOff)).getD 0 + 1 = p.next := by
      simpa using h.endOff_last hs (hcl last (by simp))
    rw [if_neg (by simp), if_pos rfl, hend]
    exact h.withSegs (segs' := [Seg.create cfg p.next now])
      (fun s hsm => List.mem_singleton.1 hsm ▸ Seg.create_inv cfg _ _ h.segSize)
      (by simp [chain_singleton]) (by rw [hdrop]; rfl)
  · rw [if_neg hpost, ite_self]
    exact h.withSegs (fun s hsm => h.segs s (by simp [hs, hsm]))
      (chain_append_right (hs ▸ h.chain) hpost) hdrop.symm

end

theorem abs_dropPrefix_zero (p : Part) : abs p = (abs p).dropPrefix 0 := by
  simp [SPart.dropPrefix]

theorem Part.msgs_take_segsMsgs {p : Part} {pre post : List Seg} (hs : p.segs = pre ++ post) :
    p.msgs.take (segsMsgs pre).length = segsMsgs pre := by
  rw [Part.msgs_eq, hs, segsMsgs_append, List.take_left]

/-- size-based retention drops at most the first segment, and only if it is closed -/
theorem deleteOldest_refines {cfg : Cfg} {p : Part} (h : p.Inv cfg) (now : Nat) :
    ∃ n, (p.deleteOldest cfg now).Inv cfg ∧ abs (p.deleteOldest cfg now) = (abs p).dropPrefix n ∧
      (p.deleteOldest cfg now).next = p.next ∧
      ∀ m ∈ p.msgs.take n, ∃ s, p.segs.head? = some s ∧ s.closed = true ∧ m ∈ s.msgs := by
  unfold Part.deleteOldest
  cases hsegs : p.segs with
  | nil => exact absurd hsegs h.segs_ne_nil
  | cons s rest =>
    simp only [List.head?_cons]
    split
    · next hc =>
      obtain ⟨h1, h2, h3⟩ := Part.deleteSegments_prefix (pre := [s]) h hsegs (by simpa using hc) now
      refine ⟨_, h1, h2, h3, fun m hm => ?_⟩
      rw [Part.msgs_take_segsMsgs (pre := [s]) hsegs] at hm
      exact ⟨s, rfl, hc, by simpa using hm⟩
    · exact ⟨0, h, abs_dropPrefix_zero p, rfl, by simp⟩

/-- the message `is_expired` looks at is the last one of the segment -/
theorem Seg.Inv.getByOffset_cur {cfg : Cfg} {s : Seg} (hi : s.Inv cfg)
    (hne : s.msgs ≠ []) : (s.getByOffset s.cur 1).head? = s.msgs.getLast? := by
  obtain ⟨init, l, hm⟩ := exists_snoc_of_ne_nil hne
  have hcur : s.cur = s.start + init.length := by rw [hi.cur, hm]; simp
  rw [Seg.getByOffset_scan hi, hi.offsets.filter_ge, hcur, Nat.add_sub_cancel_left, hm, List.drop_left]
  simp

theorem Seg.isExpired_iff {cfg : Cfg} {s : Seg} (hi : s.Inv cfg)
    (h0 : 0 < cfg.segSize) (e now : Nat) :
    s.isExpired (some e) now = true ↔
      s.closed = true ∧ ∃ l, s.msgs.getLast? = some l ∧ l.ts + e ≤ now := by
  unfold Seg.isExpired
  by_cases hc : s.closed = true
  · rw [hi.getByOffset_cur (hi.msgs_ne_nil_of_closed h0 hc)]
    cases s.msgs.getLast? <;> simp [hc]
  · simp [hc]

/-! ## the expired segments form a prefix -/

section
variable {cfg : Cfg} {p : Part} (h : p.Inv cfg)
include h

/-- within a partition timestamps are sorted, so "the last message is expired" means "all are" -/
theorem Part.Inv.isExpired_iff {s : Seg} (hs : s ∈ p.segs) (e now : Nat) :
    s.isExpired (some e) now = true ↔ s.closed = true ∧ ∀ m ∈ s.msgs, m.ts + e ≤ now := by
  rw [Seg.isExpired_iff (h.segs s hs) h.segSize]
  refine and_congr_right fun hc => ⟨fun ⟨l, hl, hle⟩ m hm => ?_, fun hall => ?_⟩
  · have hsub : s.msgs.Sublist p.msgs := List.sublist_flatten_of_mem (List.mem_map.2 ⟨s, hs, rfl⟩)
    rcases rel_getLast ((tsSorted_iff_pairwise.1 h.ts).sublist hsub) hl m hm with rfl | hml <;> omega
  · have hne := (h.segs s hs).msgs_ne_nil_of_closed h.segSize hc
    exact ⟨_, List.getLast?_eq_some_getLast hne, hall _ (List.getLast_mem hne)⟩

theorem Part.Inv.expired_pairwise (e now : Nat) :
    p.segs.Pairwise (fun x y => y.isExpired (some e) now = true → x.isExpired (some e) now = true) := by
  -- timestamps do not decrease from one segment to a later one
  have hord := List.pairwise_map.1 (List.pairwise_flatten.1 (tsSorted_iff_pairwise.1 h.ts)).2
  refine (h.segs_pairwise.and hord).imp_of_mem ?_
  rintro x y hx hy ⟨⟨hxc, -⟩, hts⟩ hexp
  obtain ⟨hyc, hyall⟩ := (h.isExpired_iff hy e now).1 hexp
  obtain ⟨m', hm'⟩ := List.exists_mem_of_ne_nil _ ((h.segs y hy).msgs_ne_nil_of_closed h.segSize hyc)
  refine (h.isExpired_iff hx e now).2 ⟨hxc, fun m hm => ?_⟩
  have := hts m hm m' hm'
  have := hyall m' hm'
  omega

end

/-- No `cfg.cacheOn = false` hypothesis: the invariant's cache clause allows a stale cache
(cache ⊇ retained messages). -/
theorem expire_refines {cfg : Cfg} {p : Part} (h : p.Inv cfg) (now : Nat) :
    ∃ n, (p.expire cfg now).Inv cfg ∧ abs (p.expire cfg now) = (abs p).dropPrefix n ∧
      (p.expire cfg now).next = p.next ∧
      ∀ m ∈ p.msgs.take n, (∃ e, p.expiry = some e ∧ m.ts + e ≤ now) ∧
        ∃ s ∈ p.segs, s.closed = true ∧ m ∈ s.msgs := by
  unfold Part.expire
  cases hexp : p.expiry with
  | none => exact ⟨0, h, abs_dropPrefix_zero p, rfl, by simp⟩
  | some e =>
    obtain ⟨post, hs, -⟩ := exists_filter_append (h.expired_pairwise e now)
    have hpre : ∀ s ∈ p.segs.filter (fun s => s.isExpired (some e) now),
        s ∈ p.segs ∧ s.closed = true ∧ ∀ m ∈ s.msgs, m.ts + e ≤ now := fun s hsm =>
      ⟨(List.mem_filter.1 hsm).1,
        (h.isExpired_iff (List.mem_filter.1 hsm).1 e now).1 (List.mem_filter.1 hsm).2⟩
    obtain ⟨h1, h2, h3⟩ := Part.deleteSegments_prefix h hs (fun s hsm => (hpre s hsm).2.1) now
    refine ⟨_, h1, h2, h3, fun m hm => ?_⟩
    rw [Part.msgs_take_segsMsgs hs] at hm
    obtain ⟨s, hsm, hms⟩ := mem_segsMsgs.1 hm
    obtain ⟨hsp, hc, hle⟩ := hpre s hsm
    exact ⟨⟨e, rfl, hle m hms⟩, s, hsp, hc, hms⟩

end Iggy.Log

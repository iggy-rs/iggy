/-
Tactics for the generated permission rules (Iggy/Perm/Generated.lean).  The generated file is
re-created from the Rust source on every run, so nothing here mentions a rule by name or a flag by
name: `register_rules` collects every definition of that module from the environment into the simp
set `perm_unfold`, and the facts of Iggy/Perm/RuleFacts.lean are proved for every entry of `allRules`,
whatever they are.

  rule_unfold      one `simp only [perm_unfold]` pass: rules, lookups on `tablesOf u p`, specification
  perm_cases_rec   case split on what a rule at `(s, tp)` can see of a record (by rewriting)
  all_rules        turns `∀ e ∈ allRules, Q e` into one goal `Q (name, fun t u s tp => rule_… )` per rule;
                   `all_rules => tac` proves it rule by rule, once per function
  rule_mem         `(name, fun t u s tp => rule_x …) ∈ allRules`
-/
import Lean
import Iggy.Perm.Attr
import Iggy.Perm.Generated
import Iggy.Perm.Flags
namespace Iggy.Perm
open Lean Elab Tactic Meta Command

/-- the names of all generated definitions to unfold: every definition of the module
Iggy.Perm.Generated directly in the namespace `Iggy.Perm` (the rules `rule_*` and whatever helper the
translator may emit), except the three tables about the rules -/
def ruleNames : CoreM (Array Name) := do
  let env ← getEnv
  let some idx := env.getModuleIdx? `Iggy.Perm.Generated
    | throwError "Iggy.Perm.Generated is not imported"
  let names := env.header.moduleData[idx]!.constNames
  return names.filter fun n =>
    n.getPrefix == `Iggy.Perm && !n.isInternal &&
      !(n == `Iggy.Perm.allRules || n == `Iggy.Perm.ruleArity || n == `Iggy.Perm.publicRules) &&
      (match env.find? n with | some (.defnInfo _) => true | _ => false)

elab "register_rules" : command => do
  let names ← liftCoreM ruleNames
  if !(names.any fun n => match n with | .str _ s => s.startsWith "rule_" | _ => false) then
    throwError "no rule_* definition found in Iggy.Perm.Generated"
  for n in names do
    try
      elabCommand (← `(attribute [perm_unfold] $(mkIdent n)))
    catch _ => pure ()

register_rules

attribute [perm_unfold]
  lks_global lks_stream lks_pollAll lks_sendAll lks_pollS lks_sendS
  lkn_global lkn_stream lkn_pollAll lkn_sendAll lkn_pollS lkn_sendS
  Option.map_some Option.map_none Option.bind_some Option.bind_none
  Option.isNone_none Option.isNone_some Option.isSome_none Option.isSome_some Option.some.injEq
  Option.getD_none Option.getD_some Option.any_none Option.any_some Option.all_none Option.all_some
  sflag tflag topicRec

/-- `rule_unfold`: ONE `simp only` pass that unfolds every generated rule (and, transitively,
the rules it calls), inlines the `let __k := …` continuations, rewrites the lookups on `tablesOf u p`
with the lookup lemmas, and unfolds `sflag` / `tflag` down to `streamRec`, `alGet` and Bool flags -/
macro "rule_unfold" : tactic => `(tactic| simp only [perm_unfold, reduceCtorEq])

/-- `perm_cases_rec p s tp` (`p : Permissions`, after `rule_unfold`): split the goal on everything a rule at
`(s, tp)` can see of the record: no record of stream `s` / a record without topic table / a topic table
without `tp` / a record of topic `tp`.  Afterwards only Bool flags are left.  (The case equations are
used as rewrite rules — nothing is `generalize`d — so the `Decidable` instances inside the `if`s can
never become type-incorrect.) -/
macro "perm_cases_rec" p:ident s:ident tp:ident : tactic => `(tactic|
  (obtain ⟨sr, hsr⟩ : ∃ sr, streamRec $p $s = sr := ⟨_, rfl⟩
   rcases sr with _ | ⟨f1, f2, f3, f4, f5, f6, _ | ts⟩
   all_goals try simp only [hsr, perm_unfold, reduceCtorEq]
   all_goals try (
     -- fails where there is no `ts` (inside `obtain` the unknown name would only be logged)
     have hguard := alGet ts $tp
     clear hguard
     obtain ⟨tr, htr⟩ : ∃ tr, alGet ts $tp = tr := ⟨_, rfl⟩
     rcases tr with _ | t
     all_goals try simp only [htr, perm_unfold, reduceCtorEq])))

/-- goal `∀ e ∈ allRules, Q e`: one goal `Q (name, fun t u s tp => rule_… )` per rule, whatever
`allRules` contains (a failure shows the rule it is about) -/
macro "all_rules" : tactic => `(tactic|
  (simp only [allRules, List.forall_mem_cons, List.not_mem_nil, false_imp_iff, implies_true, and_true]
   and_intros))

theorem forall_mem_cons_acc {α : Type} {P : α → Prop} {a : α} {l : List α} (h : P a)
    (ht : P a → ∀ e ∈ l, P e) : ∀ e ∈ a :: l, P e :=
  List.forall_mem_cons.2 ⟨h, ht h⟩

/-- `all_rules => tac`, for a goal `∀ e ∈ allRules, Q e` in which `Q e` mentions only the function `e.2`:
runs `tac` on `Q (name, fun t u s tp => rule_… )` rule by rule, keeping what is proved in the context.
Most rules only call another rule: such a rule IS a function met before, `assumption` sees through the
delegation, and `tac` runs for the others only. -/
macro "all_rules" " => " tac:tacticSeq : tactic => `(tactic|
  (simp only [allRules]
   repeat (
     refine forall_mem_cons_acc (by dsimp only; first | assumption | ($tac)) (fun h => ?_)
     dsimp only at h)
   exact fun _ h => nomatch h))

macro "rule_mem" : tactic => `(tactic|
  (unfold allRules; repeat (first | exact List.mem_cons_self | apply List.mem_cons_of_mem)))

end Iggy.Perm

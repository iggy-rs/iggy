/-
C18 — with deduplication on, a message id is stored at most once per partition.
-/
import Iggy.Log.SpecRun
import Iggy.Log.RefineRun
namespace Iggy.Props.C18
open Iggy.Log

/-- In every reachable state with deduplication on no two retained messages share an id — repeats in
the same batch, in later batches, after retention and after restarts included. -/
theorem ids_nodup (cfg : Cfg) (e : Option Nat) (ops : List SOp) (ids : List Nat)
    (h : (SPart.run cfg e ops).ids = some ids) : ((SPart.run cfg e ops).msgs.map (·.id)).Nodup :=
  (SPart.run_dedupInv cfg e ops ids h).2

/-- the first occurrence is kept, later ones are dropped: a given message whose id is not yet
remembered is accepted by the batch (some message with that id is stored) -/
theorem distinct_never_dropped (ids : List Nat) (base now : Nat) (msgs : List InMsg) (m : InMsg)
    (hm : m ∈ msgs) (hn : m.id ∉ ids) : m.id ∈ (number (some ids) base now msgs 0 []).2.map (·.id) :=
  number_complete ids base now msgs 0 m hm hn

/-- a message is dropped only if its id was remembered or occurred earlier in the batch: accepted ids
are never already-remembered ids, and within one batch each id is accepted once -/
theorem accepted_are_new (ids : List Nat) (base now : Nat) (msgs : List InMsg) :
    (∀ m ∈ (number (some ids) base now msgs 0 []).2, m.id ∉ ids) ∧
    ((number (some ids) base now msgs 0 []).2.map (·.id)).Nodup := by
  obtain ⟨_, _, _, _, h4, h5⟩ := (number_spec base now msgs (some ids) 0).ids ids rfl
  exact ⟨h4, h5⟩

/-- dropped duplicates consume no offset: accepted messages are numbered consecutively -/
theorem dup_consumes_no_offset (d : Option (List Nat)) (base now : Nat) (msgs : List InMsg) :
    consecutiveFrom base (number d base now msgs 0 []).2 := by
  simpa using number_consecutive d base now msgs 0

/-- with deduplication off every message is stored -/
theorem dedup_off_stores_all (base now : Nat) (msgs : List InMsg) :
    (number none base now msgs 0 []).2.map (fun m => (m.id, m.size, m.tag)) =
      msgs.map (fun m => (m.id, m.size, m.tag)) := number_none_all base now msgs 0

/-- after a restart the remembered ids are exactly the retained ids -/
theorem restart_rebuilds (p : SPart) (ids : List Nat) (h : p.restart.ids = some ids) (i : Nat) :
    i ∈ ids ↔ i ∈ p.msgs.map (·.id) := by
  obtain ⟨_, _, rfl⟩ := Option.map_eq_some_iff.1 h
  exact List.mem_eraseDups

/-! non-vacuity -/
example : ((SPart.run exCfg none
    [.append 1 [⟨5, 50, 1⟩, ⟨5, 50, 2⟩, ⟨6, 50, 3⟩], .restart, .append 2 [⟨6, 50, 4⟩, ⟨7, 50, 5⟩]]).msgs.map
      (fun m => (m.off, m.id))) = [(0, 5), (1, 6), (2, 7)] := by decide


/-! ## on the storage model L1 -/

theorem l1_ids_nodup {cfg : Cfg} {p : Part} (hseg : 0 < cfg.segSize) (r : Reach cfg p) (hd : p.dedup.isSome) :
    (p.msgs.map (·.id)).Nodup := reach_ids_nodup hseg r hd

end Iggy.Props.C18

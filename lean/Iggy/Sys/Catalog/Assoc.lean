/-
Association lists keyed by ascending `Nat` ids (`find?` / `insertAsc` / `erase` of `Iggy.Sys.Model`)
behave like finite maps.  Generic lemmas, used at the three levels of the catalogue
(streams, topics, consumer groups).  At the end: `AgreeOff` / `Upd`, two tables that differ under one
key at most.
-/
import Iggy.Sys.Model
namespace Iggy.Sys

variable {α β : Type}

/-- case analysis on an `if` by unification; `split` would simplify the whole goal first, which is
dear on the bodies of `step` -/
theorem ite_elim {α : Sort _} {P : α → Prop} {c : Prop} [Decidable c] {a b : α} (ha : c → P a) (hb : ¬ c → P b) :
    P (if c then a else b) := by
  by_cases h : c
  · rw [if_pos h]; exact ha h
  · rw [if_neg h]; exact hb h

theorem ite_of {α : Sort _} {P : α → Prop} {c : Prop} [Decidable c] {a b : α} (ha : P a) (hb : P b) :
    P (if c then a else b) := ite_elim (fun _ => ha) fun _ => hb

def Asc (l : List (Nat × α)) : Prop := l.Pairwise (fun a b => a.1 < b.1)

def mapE (f : Nat → α → β) (l : List (Nat × α)) : List (Nat × β) := l.map (fun e => (e.1, f e.1 e.2))

@[simp] theorem find?_nil (k : Nat) : find? ([] : List (Nat × α)) k = none := rfl

theorem find?_cons (k' : Nat) (v' : α) (l : List (Nat × α)) (k : Nat) :
    find? ((k', v') :: l) k = if k' = k then some v' else find? l k := by
  unfold find?
  by_cases h : k' = k
  · simp [h]
  · simp [h]

theorem find?_eq_none {l : List (Nat × α)} {k : Nat} : find? l k = none ↔ ∀ e ∈ l, e.1 ≠ k := by
  unfold find?
  simp only [Option.map_eq_none_iff, List.find?_eq_none, decide_eq_true_eq, ne_eq]

theorem mem_of_find? {l : List (Nat × α)} {k : Nat} {v : α} (h : find? l k = some v) : (k, v) ∈ l := by
  induction l with
  | nil => simp at h
  | cons e l ih =>
    obtain ⟨k', v'⟩ := e
    rw [find?_cons] at h
    split at h
    · next hk => cases h; subst hk; exact List.mem_cons_self
    · exact List.mem_cons_of_mem _ (ih h)

theorem find?_isSome {l : List (Nat × α)} {k : Nat} : (find? l k).isSome = true ↔ ∃ e ∈ l, e.1 = k := by
  cases h : find? l k with
  | none =>
    simp only [Option.isSome_none, Bool.false_eq_true, false_iff]
    rintro ⟨e, he, hk⟩
    exact find?_eq_none.1 h e he hk
  | some v => simp only [Option.isSome_some, true_iff]; exact ⟨(k, v), mem_of_find? h, rfl⟩

theorem find?_append_of_not_mem (l₁ l₂ : List (Nat × α)) (c : Nat) (h : ∀ e ∈ l₂, e.1 ≠ c) :
    find? (l₁ ++ l₂) c = find? l₁ c := by
  induction l₁ with
  | nil => exact find?_eq_none.2 h
  | cons e l ih =>
    obtain ⟨k, v⟩ := e
    simp only [List.cons_append, find?_cons, ih]

theorem find?_take_of_not_mem (l : List (Nat × α)) (m c : Nat) (h : ∀ e ∈ l.drop m, e.1 ≠ c) :
    find? (l.take m) c = find? l c := by
  conv => rhs; rw [← List.take_append_drop m l]
  exact (find?_append_of_not_mem _ _ c h).symm

theorem Asc.tail {e : Nat × α} {l : List (Nat × α)} (h : Asc (e :: l)) : Asc l := (List.pairwise_cons.1 h).2

theorem Asc.head_lt {e : Nat × α} {l : List (Nat × α)} (h : Asc (e :: l)) : ∀ a ∈ l, e.1 < a.1 :=
  (List.pairwise_cons.1 h).1

theorem find?_of_mem {l : List (Nat × α)} (h : Asc l) {k : Nat} {v : α} (hm : (k, v) ∈ l) : find? l k = some v := by
  induction l with
  | nil => simp at hm
  | cons e l ih =>
    obtain ⟨k', v'⟩ := e
    rw [find?_cons]
    rcases List.mem_cons.1 hm with heq | hm'
    · cases heq; rw [if_pos rfl]
    · rw [if_neg (Nat.ne_of_lt (h.head_lt _ hm')), ih h.tail hm']

theorem pairwise_ne_inj {α β : Type} {f : α → β} {l : List α} (h : l.Pairwise (fun a b => f a ≠ f b)) {a b : α}
    (ha : a ∈ l) (hb : b ∈ l) (he : f a = f b) : a = b :=
  List.Pairwise.forall_of_forall_of_flip (R := fun a b => f a = f b → a = b) (fun _ _ _ => rfl)
    (h.imp fun hne he => absurd he hne) (h.imp fun hne he => absurd he.symm hne) ha hb he

theorem Asc.eq_of_key {l : List (Nat × α)} (h : Asc l) {a b : Nat × α} (ha : a ∈ l) (hb : b ∈ l) (hk : a.1 = b.1) :
    a = b :=
  pairwise_ne_inj (f := Prod.fst) (h.imp Nat.ne_of_lt) ha hb hk

theorem insertAsc_nil (k : Nat) (v : α) : insertAsc [] k v = [(k, v)] := rfl

theorem insertAsc_cons_lt {k k' : Nat} (h : k < k') (v v' : α) (l : List (Nat × α)) :
    insertAsc ((k', v') :: l) k v = (k, v) :: (k', v') :: l := by
  rw [insertAsc, if_pos h]

theorem insertAsc_cons_eq (k : Nat) (v v' : α) (l : List (Nat × α)) :
    insertAsc ((k, v') :: l) k v = (k, v) :: l := by
  rw [insertAsc, if_neg (Nat.lt_irrefl k), if_pos rfl]

theorem insertAsc_cons_gt {k k' : Nat} (h : k' < k) (v v' : α) (l : List (Nat × α)) :
    insertAsc ((k', v') :: l) k v = (k', v') :: insertAsc l k v := by
  rw [insertAsc, if_neg (Nat.lt_asymm h), if_neg (Nat.ne_of_gt h)]

theorem find?_insertAsc_self (l : List (Nat × α)) (k : Nat) (v : α) : find? (insertAsc l k v) k = some v := by
  induction l with
  | nil => rw [insertAsc_nil, find?_cons, if_pos rfl]
  | cons e l ih =>
    obtain ⟨k', v'⟩ := e
    rcases Nat.lt_trichotomy k k' with h | rfl | h
    · rw [insertAsc_cons_lt h, find?_cons, if_pos rfl]
    · rw [insertAsc_cons_eq, find?_cons, if_pos rfl]
    · rw [insertAsc_cons_gt h, find?_cons, if_neg (Nat.ne_of_lt h), ih]

theorem find?_insertAsc_ne (l : List (Nat × α)) {k k' : Nat} (v : α) (hne : k' ≠ k) :
    find? (insertAsc l k v) k' = find? l k' := by
  induction l with
  | nil => rw [insertAsc_nil, find?_cons, if_neg (Ne.symm hne)]
  | cons e l ih =>
    obtain ⟨k'', v''⟩ := e
    rcases Nat.lt_trichotomy k k'' with h | rfl | h
    · rw [insertAsc_cons_lt h, find?_cons, if_neg (Ne.symm hne)]
    · rw [insertAsc_cons_eq, find?_cons, find?_cons, if_neg (Ne.symm hne), if_neg (Ne.symm hne)]
    · rw [insertAsc_cons_gt h, find?_cons, find?_cons, ih]

theorem insertAsc_insertAsc (l : List (Nat × α)) (k : Nat) (v v' : α) :
    insertAsc (insertAsc l k v) k v' = insertAsc l k v' := by
  induction l with
  | nil => exact insertAsc_cons_eq k v' v []
  | cons e l ih =>
    obtain ⟨k', w⟩ := e
    rcases Nat.lt_trichotomy k k' with h | rfl | h
    · rw [insertAsc_cons_lt h, insertAsc_cons_lt h, insertAsc_cons_eq]
    · rw [insertAsc_cons_eq, insertAsc_cons_eq, insertAsc_cons_eq]
    · rw [insertAsc_cons_gt h, insertAsc_cons_gt h, insertAsc_cons_gt h, ih]

theorem mem_insertAsc {l : List (Nat × α)} {k : Nat} {v : α} {e : Nat × α} (h : e ∈ insertAsc l k v) :
    e = (k, v) ∨ (e ∈ l ∧ (Asc l → e.1 ≠ k)) := by
  induction l with
  | nil => exact Or.inl (List.mem_singleton.1 h)
  | cons e' l ih =>
    obtain ⟨k', v'⟩ := e'
    rcases Nat.lt_trichotomy k k' with hk | rfl | hk
    · rw [insertAsc_cons_lt hk] at h
      rcases List.mem_cons.1 h with h | h
      · exact Or.inl h
      · refine Or.inr ⟨h, fun hasc => ?_⟩
        rcases List.mem_cons.1 h with h | h
        · subst h; exact Nat.ne_of_gt hk
        · exact Nat.ne_of_gt (Nat.lt_trans hk (hasc.head_lt _ h))
    · rw [insertAsc_cons_eq] at h
      rcases List.mem_cons.1 h with h | h
      · exact Or.inl h
      · exact Or.inr ⟨List.mem_cons_of_mem _ h, fun hasc => Nat.ne_of_gt (hasc.head_lt _ h)⟩
    · rw [insertAsc_cons_gt hk] at h
      rcases List.mem_cons.1 h with h | h
      · subst h; exact Or.inr ⟨List.mem_cons_self, fun _ => Nat.ne_of_lt hk⟩
      · rcases ih h with h | ⟨h, h'⟩
        · exact Or.inl h
        · exact Or.inr ⟨List.mem_cons_of_mem _ h, fun hasc => h' hasc.tail⟩

theorem mem_insertAsc_self (l : List (Nat × α)) (k : Nat) (v : α) : (k, v) ∈ insertAsc l k v :=
  mem_of_find? (find?_insertAsc_self l k v)

theorem mem_insertAsc_of_mem {l : List (Nat × α)} {k : Nat} {v : α} {e : Nat × α} (h : e ∈ l) (hne : e.1 ≠ k) :
    e ∈ insertAsc l k v := by
  induction l with
  | nil => cases h
  | cons e' l ih =>
    obtain ⟨k', v'⟩ := e'
    rcases Nat.lt_trichotomy k k' with hk | rfl | hk
    · rw [insertAsc_cons_lt hk]; exact List.mem_cons_of_mem _ h
    · rw [insertAsc_cons_eq]
      rcases List.mem_cons.1 h with h | h
      · subst h; exact absurd rfl hne
      · exact List.mem_cons_of_mem _ h
    · rw [insertAsc_cons_gt hk]
      rcases List.mem_cons.1 h with h | h
      · subst h; exact List.mem_cons_self
      · exact List.mem_cons_of_mem _ (ih h)

theorem asc_insertAsc {l : List (Nat × α)} (h : Asc l) (k : Nat) (v : α) : Asc (insertAsc l k v) := by
  induction l with
  | nil => exact List.pairwise_singleton _ _
  | cons e l ih =>
    obtain ⟨k', v'⟩ := e
    rcases Nat.lt_trichotomy k k' with hk | rfl | hk
    · rw [insertAsc_cons_lt hk]
      refine List.pairwise_cons.2 ⟨fun a ha => ?_, h⟩
      rcases List.mem_cons.1 ha with ha | ha
      · subst ha; exact hk
      · exact Nat.lt_trans hk (h.head_lt _ ha)
    · rw [insertAsc_cons_eq]; exact List.pairwise_cons.2 ⟨h.head_lt, h.tail⟩
    · rw [insertAsc_cons_gt hk]
      refine List.pairwise_cons.2 ⟨fun a ha => ?_, ih h.tail⟩
      rcases mem_insertAsc ha with ha | ⟨ha, _⟩
      · subst ha; exact hk
      · exact h.head_lt _ ha

theorem insertAsc_self {l : List (Nat × α)} (h : Asc l) {k : Nat} {v : α} (hf : find? l k = some v) :
    insertAsc l k v = l := by
  induction l with
  | nil => cases hf
  | cons e l ih =>
    obtain ⟨k', v'⟩ := e
    rw [find?_cons] at hf
    by_cases hk : k' = k
    · subst hk; rw [if_pos rfl] at hf; cases hf; exact insertAsc_cons_eq _ _ _ _
    · rw [if_neg hk] at hf
      rw [insertAsc_cons_gt (h.head_lt _ (mem_of_find? hf)), ih h.tail hf]

theorem length_insertAsc_of_mem {l : List (Nat × α)} {k : Nat} {v v' : α} (hf : find? l k = some v) :
    (insertAsc l k v').length ≤ l.length + 1 := by
  induction l with
  | nil => cases hf
  | cons e l ih =>
    obtain ⟨k', v''⟩ := e
    rcases Nat.lt_trichotomy k k' with hk | rfl | hk
    · rw [insertAsc_cons_lt hk]; exact Nat.le_refl _
    · rw [insertAsc_cons_eq]; exact Nat.le_succ _
    · rw [find?_cons, if_neg (Nat.ne_of_lt hk)] at hf
      rw [insertAsc_cons_gt hk]; exact Nat.succ_le_succ (ih hf)

theorem mem_erase {l : List (Nat × α)} {k : Nat} {e : Nat × α} : e ∈ erase l k ↔ e ∈ l ∧ e.1 ≠ k := by
  unfold erase; simp [List.mem_filter]

theorem asc_erase {l : List (Nat × α)} (h : Asc l) (k : Nat) : Asc (erase l k) := List.Pairwise.filter _ h

theorem find?_erase_self (l : List (Nat × α)) (k : Nat) : find? (erase l k) k = none :=
  find?_eq_none.2 (fun _ he => (mem_erase.1 he).2)

theorem find?_erase_ne (l : List (Nat × α)) {k k' : Nat} (hne : k' ≠ k) : find? (erase l k) k' = find? l k' := by
  unfold find? erase
  rw [List.find?_filter]
  congr; funext e
  by_cases he : e.1 = k' <;> simp [he, hne]

theorem erase_of_not_mem {l : List (Nat × α)} {k : Nat} (h : find? l k = none) : erase l k = l := by
  unfold erase
  rw [List.filter_eq_self]
  intro e he
  simpa using find?_eq_none.1 h e he

@[simp] theorem mapE_nil (f : Nat → α → β) : mapE f [] = [] := rfl

@[simp] theorem mapE_cons (f : Nat → α → β) (e : Nat × α) (l : List (Nat × α)) :
    mapE f (e :: l) = (e.1, f e.1 e.2) :: mapE f l := rfl

theorem mapE_insertAsc (f : Nat → α → β) (l : List (Nat × α)) (k : Nat) (v : α) :
    mapE f (insertAsc l k v) = insertAsc (mapE f l) k (f k v) := by
  induction l with
  | nil => rfl
  | cons e l ih =>
    obtain ⟨k', v'⟩ := e
    rcases Nat.lt_trichotomy k k' with hk | rfl | hk
    · rw [insertAsc_cons_lt hk]; exact (insertAsc_cons_lt hk _ _ _).symm
    · rw [insertAsc_cons_eq]; exact (insertAsc_cons_eq _ _ _ _).symm
    · rw [insertAsc_cons_gt hk, mapE_cons, ih]; exact (insertAsc_cons_gt hk _ _ _).symm

theorem mapE_erase (f : Nat → α → β) (l : List (Nat × α)) (k : Nat) : mapE f (erase l k) = erase (mapE f l) k := by
  unfold erase mapE
  rw [List.filter_map]
  rfl

theorem find?_mapE (f : Nat → α → β) (l : List (Nat × α)) (k : Nat) :
    find? (mapE f l) k = (find? l k).map (f k) := by
  induction l with
  | nil => rfl
  | cons e l ih =>
    obtain ⟨k', v'⟩ := e
    simp only [mapE_cons, find?_cons, ih]
    split
    · next h => subst h; rfl
    · rfl

theorem find?_mapE_eq_some {f : Nat → α → β} {l : List (Nat × α)} {k : Nat} {b : β}
    (h : find? (mapE f l) k = some b) : ∃ a, find? l k = some a ∧ f k a = b := by
  rw [find?_mapE] at h
  exact Option.map_eq_some_iff.1 h

theorem find?_map_snd (f : Nat × α → β) (l : List (Nat × α)) (k : Nat) :
    find? (l.map (fun e => (e.1, f e))) k = (find? l k).map (fun v => f (k, v)) :=
  find?_mapE (fun k v => f (k, v)) l k

theorem find?_map_val (f : Nat × α → α) (l : List (Nat × α)) (c : Nat) (h : ∀ e ∈ l, e.1 = c → f e = e.2) :
    find? (l.map (fun e => (e.1, f e))) c = find? l c := by
  rw [find?_map_snd]
  cases hf : find? l c with
  | none => rfl
  | some v => exact congrArg some (h _ (mem_of_find? hf) rfl)

theorem find?_map_if_ne (l : List (Nat × α)) (k k' : Nat) (g : α → α) (h : k' ≠ k) :
    find? (l.map (fun e => if e.1 = k then (e.1, g e.2) else e)) k' = find? l k' := by
  rw [show (fun e : Nat × α => if e.1 = k then (e.1, g e.2) else e) = fun e => (e.1, if e.1 = k then g e.2 else e.2)
    from funext fun e => by split <;> rfl]
  exact find?_map_val _ l k' fun e _ he => if_neg (he ▸ h)

theorem asc_mapE (f : Nat → α → β) (l : List (Nat × α)) : Asc (mapE f l) ↔ Asc l := by
  unfold Asc mapE
  rw [List.pairwise_map]

theorem mem_mapE {f : Nat → α → β} {l : List (Nat × α)} {e : Nat × β} :
    e ∈ mapE f l ↔ ∃ a ∈ l, e = (a.1, f a.1 a.2) := by
  unfold mapE
  simp only [List.mem_map]
  constructor
  · rintro ⟨a, ha, rfl⟩; exact ⟨a, ha, rfl⟩
  · rintro ⟨a, ha, rfl⟩; exact ⟨a, ha, rfl⟩

theorem length_mapE (f : Nat → α → β) (l : List (Nat × α)) : (mapE f l).length = l.length := by
  simp [mapE]

theorem mapE_keys (f : Nat → α → β) (l : List (Nat × α)) : (mapE f l).map (·.1) = l.map (·.1) := by
  simp [mapE]

theorem mapE_mapE {γ : Type} (g : Nat → β → γ) (f : Nat → α → β) (l : List (Nat × α)) :
    mapE g (mapE f l) = mapE (fun k v => g k (f k v)) l := by
  simp [mapE]

theorem mapE_congr {f g : Nat → α → β} {l : List (Nat × α)} (h : ∀ e ∈ l, f e.1 e.2 = g e.1 e.2) :
    mapE f l = mapE g l := by
  unfold mapE
  apply List.map_congr_left
  intro e he
  rw [h e he]

theorem mapE_insertAsc_same (f : Nat → α → β) {l : List (Nat × α)} (h : Asc l) {k : Nat} {v v' : α}
    (hf : find? l k = some v) (hv : f k v' = f k v) : mapE f (insertAsc l k v') = mapE f l := by
  rw [mapE_insertAsc, hv]
  apply insertAsc_self ((asc_mapE f l).2 h)
  rw [find?_mapE, hf]; rfl

theorem keys_insertAsc_same {l : List (Nat × α)} (h : Asc l) {k : Nat} {v v' : α}
    (hf : find? l k = some v) : (insertAsc l k v').map (·.1) = l.map (·.1) := by
  have := mapE_insertAsc_same (fun _ _ => ()) h (v' := v') hf rfl
  have := congrArg (fun l => l.map (·.1)) this
  simpa [mapE_keys] using this

theorem length_insertAsc_same {α : Type} {l : List (Nat × α)} (h : Asc l) {k : Nat} {v v' : α}
    (hf : find? l k = some v) : (insertAsc l k v').length = l.length := by
  have := congrArg List.length (keys_insertAsc_same h (v' := v') hf)
  simpa using this

def AgreeOff (k : Nat) (l l' : List (Nat × α)) : Prop := ∀ k', k' ≠ k → find? l' k' = find? l k'

theorem AgreeOff.refl (k : Nat) (l : List (Nat × α)) : AgreeOff k l l := fun _ _ => rfl

theorem AgreeOff.of_eq {k : Nat} {l l' : List (Nat × α)} (h : l' = l) : AgreeOff k l l' := by
  subst h; exact .refl _ _

theorem AgreeOff.trans {k : Nat} {l₁ l₂ l₃ : List (Nat × α)} (h₁ : AgreeOff k l₁ l₂) (h₂ : AgreeOff k l₂ l₃) :
    AgreeOff k l₁ l₃ := fun k' hk => (h₂ k' hk).trans (h₁ k' hk)

theorem AgreeOff.insert {k : Nat} {l l' : List (Nat × α)} (h : AgreeOff k l l') (v : α) :
    AgreeOff k l (insertAsc l' k v) := fun k' hk => (find?_insertAsc_ne l' v hk).trans (h k' hk)

theorem AgreeOff.erase {k : Nat} {l l' : List (Nat × α)} (h : AgreeOff k l l') :
    AgreeOff k l (erase l' k) := fun k' hk => (find?_erase_ne l' hk).trans (h k' hk)

/-- `l'` is `l` with the entry under `k` (which is `v`) left alone, rewritten, or removed; the last
index is the entry under `k` afterwards.  Every change that an operation naming a stream or a topic makes
to a table has this shape (`TopicStep`, `StreamStep` in `FrameLemmas.lean`). -/
inductive Upd (k : Nat) (v : α) (l : List (Nat × α)) : List (Nat × α) → Option α → Prop
  | same : Upd k v l l (some v)
  | put (v' : α) : Upd k v l (insertAsc l k v') (some v')
  | del : Upd k v l (erase l k) none

theorem Upd.agreeOff {k : Nat} {v : α} {l l' : List (Nat × α)} {r : Option α} (h : Upd k v l l' r) :
    AgreeOff k l l' := by
  cases h
  · exact .refl _ _
  · exact (AgreeOff.refl _ _).insert _
  · exact (AgreeOff.refl _ _).erase

theorem Upd.find {k : Nat} {v : α} {l l' : List (Nat × α)} {r : Option α} (h : Upd k v l l' r)
    (hk : find? l k = some v) : find? l' k = r := by
  cases h
  · exact hk
  · exact find?_insertAsc_self _ _ _
  · exact find?_erase_self _ _

end Iggy.Sys

/-
Facts derived from the representation invariant: shape of the segment list, global consecutiveness of
the retained messages, counters; the cache clause under `drop` (`cache_drop`) and the bound on stored consumer
offsets (`OffsBelow`).
-/
import Iggy.Log.Lemmas.Basic
namespace Iggy.Log

def segsMsgs (l : List Seg) : List Msg := (l.map Seg.msgs).flatten

theorem Part.msgs_eq (p : Part) : p.msgs = segsMsgs p.segs := rfl

@[simp] theorem segsMsgs_nil : segsMsgs [] = [] := rfl
@[simp] theorem segsMsgs_cons (s : Seg) (l : List Seg) : segsMsgs (s :: l) = s.msgs ++ segsMsgs l := by
  simp [segsMsgs]
@[simp] theorem segsMsgs_append (l1 l2 : List Seg) : segsMsgs (l1 ++ l2) = segsMsgs l1 ++ segsMsgs l2 := by
  simp [segsMsgs]

theorem Part.msgs_of_snoc {p : Part} {init : List Seg} {last : Seg} (hs : p.segs = init ++ [last]) :
    p.msgs = segsMsgs init ++ last.msgs := by
  rw [Part.msgs_eq, hs, segsMsgs_append, segsMsgs_cons, segsMsgs_nil, List.append_nil]

theorem mem_segsMsgs {l : List Seg} {m : Msg} : m ∈ segsMsgs l ↔ ∃ s ∈ l, m ∈ s.msgs := by
  simp only [segsMsgs, List.mem_flatten, List.mem_map]
  constructor
  · rintro ⟨_, ⟨a, ha, rfl⟩, hm⟩; exact ⟨a, ha, hm⟩
  · rintro ⟨s, hs, hm⟩; exact ⟨_, ⟨s, hs, rfl⟩, hm⟩

theorem segsMsgs_map_of_msgs {l : List Seg} {f : Seg → Seg} (h : ∀ s ∈ l, (f s).msgs = s.msgs) :
    segsMsgs (l.map f) = segsMsgs l := by
  induction l with
  | nil => rfl
  | cons a l ih => simp [h a (by simp), ih (fun s hs => h s (by simp [hs]))]

section seg
variable {cfg : Cfg} {s : Seg} (h : s.Inv cfg)
include h

theorem Seg.Inv.log_ne_nil_of_closed (hseg : 0 < cfg.segSize) (hc : s.closed = true) : s.log ≠ [] := by
  obtain ⟨hacc, _, hsz⟩ := h.closed hc
  have := h.size
  intro hl
  simp [Seg.accMsgs, hacc, hl] at this
  omega

theorem Seg.Inv.msgs_ne_nil_of_closed (hseg : 0 < cfg.segSize) (hc : s.closed = true) : s.msgs ≠ [] := by
  have := batchesMsgs_ne_nil h.batches (h.log_ne_nil_of_closed hseg hc)
  simp [Seg.msgs, this]

theorem Seg.Inv.accMsgs_nil_of_closed (hc : s.closed = true) : s.accMsgs = [] := by
  simp [Seg.accMsgs, (h.closed hc).1]

theorem Seg.Inv.sizeBytes_eq_zero_iff (hs : ∀ m ∈ s.msgs, 0 < m.size) : s.sizeBytes = 0 ↔ s.msgs = [] := by
  rw [h.size, Seg.msgs_def, List.append_eq_nil_iff, Nat.add_eq_zero_iff]
  constructor
  · rintro ⟨h1, h2⟩
    rw [logBytes_eq_zero h1]
    exact ⟨rfl, sumSizes_eq_zero (fun m hm => hs m (by simp [Seg.msgs, hm])) h2⟩
  · rintro ⟨h1, h2⟩
    have : s.log = [] := Classical.byContradiction fun hl => batchesMsgs_ne_nil h.batches hl h1
    simp [this, h2]

/-- `get_messages_count` is right as long as every message occupies at least one byte -/
theorem Seg.Inv.msgCount (hs : ∀ m ∈ s.msgs, 0 < m.size) : s.msgCount = s.msgs.length := by
  unfold Seg.msgCount
  split
  · next hz => rw [(h.sizeBytes_eq_zero_iff hs).1 hz]; rfl
  · next hz =>
    have : 0 < s.msgs.length := List.length_pos_iff.2 (fun hm => hz ((h.sizeBytes_eq_zero_iff hs).2 hm))
    have := h.cur
    omega

theorem Seg.Inv.log_consecutive : consecutiveFrom s.start (batchesMsgs s.log) :=
  (consecutiveFrom_append_iff.1 h.offsets).1

theorem Seg.Inv.acc_consecutive : consecutiveFrom (s.start + (batchesMsgs s.log).length) s.accMsgs :=
  (consecutiveFrom_append_iff.1 h.offsets).2

theorem Seg.Inv.acc_bounds {a : Acc} (ha : s.acc = some a) (hne : a.msgs ≠ []) :
    a.base = s.start + (batchesMsgs s.log).length ∧ a.cur + 1 = a.base + a.msgs.length := by
  have hc := h.acc_consecutive
  rw [Seg.accMsgs_of_acc ha] at hc
  obtain ⟨hh, hl, -⟩ := h.accHdr a ha hne
  have e1 := hc.head (List.head?_eq_some_head hne)
  have e2 := hc.getLast (List.getLast?_eq_some_getLast hne)
  simp only [List.head?_eq_some_head hne, List.getLast?_eq_some_getLast hne, Option.map_some,
    Option.some.injEq] at hh hl
  omega

end seg

theorem Seg.Inv.msgs_eq_log_of_closed {cfg : Cfg} {s : Seg} (h : s.Inv cfg) (hc : s.closed = true) :
    s.msgs = batchesMsgs s.log := by
  simp [Seg.msgs, h.accMsgs_nil_of_closed hc]

theorem sum_msgCount {cfg : Cfg} {l : List Seg} (hi : ∀ s ∈ l, s.Inv cfg)
    (hs : ∀ m ∈ segsMsgs l, 0 < m.size) : (l.map Seg.msgCount).sum = (segsMsgs l).length := by
  induction l with
  | nil => rfl
  | cons s l ih =>
    have h1 := (hi s (by simp)).msgCount (fun m hm => hs m (by simp [hm]))
    have h2 := ih (fun t ht => hi t (by simp [ht])) (fun m hm => hs m (by simp [hm]))
    simp [h1, h2]

theorem foldl_subSeg (segs : List Seg) (c : Counters) :
    (segs.foldl Counters.subSeg c).msgs = c.msgs - (segs.map Seg.msgCount).sum ∧
    (segs.foldl Counters.subSeg c).size = c.size - (segs.map (·.sizeBytes)).sum ∧
    (segs.foldl Counters.subSeg c).segs = c.segs - segs.length := by
  induction segs generalizing c with
  | nil => simp
  | cons s l ih =>
    obtain ⟨h1, h2, h3⟩ := ih (c.subSeg s)
    simp only [List.foldl_cons, List.map_cons, List.sum_cons, List.length_cons]
    rw [h1, h2, h3]
    exact ⟨Nat.sub_sub _ _ _, Nat.sub_sub _ _ _, by rw [Nat.add_comm]; exact Nat.sub_sub _ _ _⟩

def tiled : Nat → List Seg → Prop
  | _, [] => True
  | a, s :: rest => s.start = a ∧ (rest ≠ [] → s.closed = true) ∧ tiled (a + s.msgs.length) rest

theorem chain_iff_tiled {l : List Seg} {n : Nat} :
    chain l n ↔ l ≠ [] ∧ ∃ a, tiled a l ∧ a + (segsMsgs l).length = n := by
  induction l with
  | nil => simp [chain]
  | cons s l ih =>
    cases l with
    | nil => simp [chain, tiled]
    | cons t r =>
      rw [chain_cons_cons, ih]
      simp only [ne_eq, reduceCtorEq, not_false_eq_true, true_and, tiled, segsMsgs_cons,
        List.length_append, forall_const]
      constructor
      · rintro ⟨h1, h2, a, ⟨h3, h4, h5⟩, h6⟩
        subst h3
        refine ⟨s.start, ⟨rfl, h2, h1.symm, ?_, ?_⟩, ?_⟩
        · exact h4
        · rw [h1]; exact h5
        · omega
      · rintro ⟨a, ⟨h1, h2, h3, h4, h5⟩, h6⟩
        subst h1
        refine ⟨h3.symm, h2, t.start, ⟨rfl, h4, ?_⟩, ?_⟩
        · rw [h3]; exact h5
        · omega

theorem tiled.consecutive {a : Nat} {l : List Seg} (h : tiled a l)
    (hc : ∀ s ∈ l, consecutiveFrom s.start s.msgs) : consecutiveFrom a (segsMsgs l) := by
  induction l generalizing a with
  | nil => simp [consecutiveFrom]
  | cons s l ih =>
    obtain ⟨h1, _, h3⟩ := h
    subst h1
    rw [segsMsgs_cons, consecutiveFrom_append_iff]
    exact ⟨hc s (by simp), ih h3 (fun t ht => hc t (by simp [ht]))⟩

section tiled
variable {a : Nat} {l : List Seg} (h : tiled a l)
include h

theorem tiled.le_start : ∀ t ∈ l, a ≤ t.start := by
  induction l generalizing a with
  | nil => simp
  | cons s r ih =>
    intro t ht
    rcases List.mem_cons.1 ht with rfl | ht
    · exact Nat.le_of_eq h.1.symm
    · have := ih h.2.2 t ht; omega

theorem tiled.end_le : ∀ t ∈ l, t.start + t.msgs.length ≤ a + (segsMsgs l).length := by
  induction l generalizing a with
  | nil => simp
  | cons s r ih =>
    intro t ht
    rw [segsMsgs_cons, List.length_append]
    rcases List.mem_cons.1 ht with rfl | ht
    · have := h.1; omega
    · have := ih h.2.2 t ht; omega

theorem tiled.bounds {cfg : Cfg} (hi : ∀ s ∈ l, s.Inv cfg) :
    ∀ m ∈ segsMsgs l, a ≤ m.off ∧ m.off < a + (segsMsgs l).length :=
  (h.consecutive fun s hs => (hi s hs).offsets).bounds

/-- every segment but the last is closed, hence non-empty: the start offsets strictly increase -/
theorem tiled.pairwise {cfg : Cfg} (hi : ∀ s ∈ l, s.Inv cfg) (hseg : 0 < cfg.segSize) :
    l.Pairwise (fun x y => x.closed = true ∧ x.start < y.start) := by
  induction l generalizing a with
  | nil => simp
  | cons s r ih =>
    refine List.pairwise_cons.2 ⟨?_, ih h.2.2 (fun t ht => hi t (by simp [ht]))⟩
    intro t ht
    have hc : s.closed = true := h.2.1 (List.ne_nil_of_mem ht)
    have hlen := List.length_pos_iff.2 ((hi s (by simp)).msgs_ne_nil_of_closed hseg hc)
    have := h.2.2.le_start t ht
    have := h.1
    exact ⟨hc, by omega⟩

theorem tiled.head_start (hl : l ≠ []) : (l.head?.map (·.start)).getD 0 = a := by
  cases l with
  | nil => exact absurd rfl hl
  | cons s r => simp [h.1]

end tiled

theorem tiled_append {a : Nat} {l1 l2 : List Seg} :
    tiled a (l1 ++ l2) ↔
      tiled a l1 ∧ (l2 ≠ [] → ∀ s ∈ l1, s.closed = true) ∧ tiled (a + (segsMsgs l1).length) l2 := by
  induction l1 generalizing a with
  | nil => simp [tiled]
  | cons s l ih =>
    simp only [List.cons_append, tiled, ih, segsMsgs_cons, List.length_append, Nat.add_assoc]
    constructor
    · rintro ⟨h1, h2, h3, h4, h5⟩
      refine ⟨⟨h1, fun hl => h2 (by simp [hl]), h3⟩, ?_, h5⟩
      intro h2' t ht
      rcases List.mem_cons.1 ht with rfl | ht
      · exact h2 (by simp [h2'])
      · exact h4 h2' t ht
    · rintro ⟨⟨h1, h2, h3⟩, h4, h5⟩
      refine ⟨h1, ?_, h3, fun hl t ht => h4 hl t (by simp [ht]), h5⟩
      intro hne
      by_cases hl : l = []
      · subst hl
        simp at hne
        exact h4 hne s (by simp)
      · exact h2 hl

def Part.firstStart (p : Part) : Nat := (p.segs.head?.map (·.start)).getD 0

section part
variable {cfg : Cfg} {p : Part} (h : p.Inv cfg)
include h

theorem Part.Inv.segs_ne_nil : p.segs ≠ [] := chain_ne_nil h.chain

theorem Part.Inv.exists_snoc : ∃ init last, p.segs = init ++ [last] := exists_snoc_of_ne_nil h.segs_ne_nil

theorem Part.Inv.tiled' : tiled p.firstStart p.segs ∧ p.firstStart + p.msgs.length = p.next := by
  obtain ⟨a, h1, h2⟩ := (chain_iff_tiled.1 h.chain).2
  rw [Part.firstStart, h1.head_start h.segs_ne_nil]
  exact ⟨h1, h2⟩

theorem Part.Inv.msgs_consecutive : consecutiveFrom p.firstStart p.msgs :=
  h.tiled'.1.consecutive (fun s hs => (h.segs s hs).offsets)

theorem Part.Inv.msgs_nil_of_not_inc (hi : p.shouldInc = false) : p.msgs = [] := by
  have := h.tiled'.2
  simp [Part.next, hi] at this
  exact this.2

theorem Part.Inv.cur_eq : p.cur = p.next - 1 := by
  unfold Part.next
  cases hi : p.shouldInc with
  | true => simp
  | false => simp [h.curZero hi]

theorem Part.Inv.ids_nodup (hon : cfg.dedupOn = true) : (p.msgs.map (·.id)).Nodup := by
  have hcfg := h.dedupCfg
  rw [hon] at hcfg
  obtain ⟨ids, hids⟩ := Option.isSome_iff_exists.1 hcfg
  exact (h.dedupIds ids hids).2

theorem Part.Inv.foldl_subSeg {pre post : List Seg} (hs : p.segs = pre ++ post) :
    pre.foldl Counters.subSeg p.cnt =
      { msgs := (segsMsgs post).length, size := (post.map (·.sizeBytes)).sum, segs := post.length } := by
  have hsz : ∀ m ∈ segsMsgs pre, 0 < m.size := fun m hm =>
    h.sizes m (by rw [Part.msgs_eq, hs, segsMsgs_append]; exact List.mem_append_left _ hm)
  obtain ⟨h1, h2, h3⟩ := Iggy.Log.foldl_subSeg pre p.cnt
  rw [sum_msgCount (fun s hsm => h.segs s (by simp [hs, hsm])) hsz, h.cntMsgs, Part.msgs_eq, hs,
    segsMsgs_append, List.length_append, Nat.add_sub_cancel_left] at h1
  rw [h.cntSize, hs, List.map_append, List.sum_append_nat, Nat.add_sub_cancel_left] at h2
  rw [h.cntSegs, hs, List.length_append, Nat.add_sub_cancel_left] at h3
  rw [← h1, ← h2, ← h3]

variable {init : List Seg} {last : Seg} (hs : p.segs = init ++ [last])
include hs

theorem Part.Inv.segs_snoc : (∀ s ∈ init, s.Inv cfg) ∧ last.Inv cfg :=
  forall_mem_snoc.1 (hs ▸ h.segs)

theorem Part.Inv.last_facts :
    (∀ s ∈ init, s.closed = true) ∧ last.start + last.msgs.length = p.next ∧
      (∀ s ∈ init, s.start + s.msgs.length ≤ last.start) := by
  have hc := h.chain
  rw [hs, chain_snoc] at hc
  refine ⟨?_, hc.2, ?_⟩
  · rcases hc.1 with rfl | ⟨_, h2⟩
    · simp
    · exact h2
  · have ht := h.tiled'.1
    rw [hs, tiled_append] at ht
    rw [ht.2.2.1]
    exact ht.1.end_le

theorem Part.Inv.endOff_last (hc : last.closed = true) : last.endOff + 1 = p.next := by
  have hl := (h.segs_snoc hs).2
  have hlen := List.length_pos_iff.2 (hl.msgs_ne_nil_of_closed h.segSize hc)
  rw [(hl.closed hc).2.1, hl.cur, ← (h.last_facts hs).2.1, Nat.add_assoc, Nat.sub_add_cancel hlen]

theorem Part.Inv.replace_last {last' : Seg} (hl : last'.Inv cfg) (hst : last'.start = last.start) {k d : Nat}
    (hlen : last'.msgs.length = last.msgs.length + k) (hsize : last'.sizeBytes = last.sizeBytes + d) :
    (∀ s ∈ init ++ [last'], s.Inv cfg) ∧ Iggy.Log.chain (init ++ [last']) (p.next + k) ∧
      p.cnt.size + d = ((init ++ [last']).map (·.sizeBytes)).sum ∧ p.cnt.segs = (init ++ [last']).length := by
  have hc := h.chain
  rw [hs, chain_snoc] at hc
  refine ⟨forall_mem_snoc.2 ⟨(h.segs_snoc hs).1, hl⟩, ?_, ?_, by simp [h.cntSegs, hs]⟩
  · rw [chain_snoc, hst, hlen]
    exact ⟨hc.1, by omega⟩
  · rw [h.cntSize, hs]
    simp [hsize]; omega

end part

/-- the cache clause of `Part.Inv` under eviction and warm-up -/
theorem cache_drop {c ms : List Msg} {n : Nat}
    (h : (c <:+ ms ∨ ms <:+ c) ∧ consecutiveFrom (n - c.length) c ∧ c.length ≤ n) (k : Nat) :
    (c.drop k <:+ ms ∨ ms <:+ c.drop k) ∧ consecutiveFrom (n - (c.drop k).length) (c.drop k) ∧
      (c.drop k).length ≤ n := by
  obtain ⟨h1, h2, h3⟩ := h
  have hsuf : c.drop k <:+ c := List.drop_suffix _ _
  refine ⟨?_, ?_, by simp only [List.length_drop]; omega⟩
  · rcases h1 with h1 | h1
    · exact Or.inl (hsuf.trans h1)
    · exact List.suffix_or_suffix_of_suffix hsuf h1
  · by_cases hk : k ≤ c.length
    · have e : n - (c.drop k).length = n - c.length + k := by simp only [List.length_drop]; omega
      rw [e]; exact h2.drop k
    · rw [List.drop_eq_nil_of_le (by omega)]; trivial

/-- stored consumer offsets `l` lie below the next offset `n` (`Part.Inv.offsBound`); 0 is also what may
be stored before anything was accepted -/
def OffsBelow (l : List (Nat × Nat)) (n : Nat) : Prop := ∀ e ∈ l, e.2 < n ∨ (e.2 = 0 ∧ n = 0)

theorem OffsBelow.mono {l : List (Nat × Nat)} {n n' : Nat} (h : OffsBelow l n) (hn : n < n') :
    OffsBelow l n' := by
  intro e he
  rcases h e he with h1 | ⟨h1, -⟩ <;> exact Or.inl (by omega)

theorem OffsBelow.insertKV {l : List (Nat × Nat)} {n k v : Nat} (h : OffsBelow l n)
    (hv : v < n ∨ (v = 0 ∧ n = 0)) : OffsBelow (insertKV l k v) n := by
  intro e he
  rcases List.mem_cons.1 he with rfl | he
  · exact hv
  · exact h e (List.mem_filter.1 he).1

theorem OffsBelow.eraseK {l : List (Nat × Nat)} {n : Nat} (h : OffsBelow l n) (k : Nat) :
    OffsBelow (eraseK l k) n :=
  fun e he => h e (List.mem_filter.1 he).1

end Iggy.Log

/-
Polling by timestamp: the model (`Seg.getByTimestamp`, `Part.getByTimestamp`) returns what the
specification (`SPart.pollTimestamp`) says, provided no log file reaches 4 GiB (the reader passes
`u32::MAX` as the end position of the read).
-/
import Iggy.Log.Lemmas.ReadSeg
import Iggy.Log.Lemmas.Decide
namespace Iggy.Log

variable {cfg : Cfg} {s : Seg}

theorem Acc.getByTimestamp_eq {a : Acc} (h : a.msgs.Pairwise (fun a b => a.ts ≤ b.ts)) (ts n : Nat) :
    a.getByTimestamp ts n = (a.msgs.filter (fun m => ts ≤ m.ts)).take n := by
  unfold Acc.getByTimestamp
  rw [dropWhile_lt_eq_filter h]

theorem filter_batches_older {l : List Batch} (hwf : ∀ b ∈ l, b.WF)
    (hs : (batchesMsgs l).Pairwise (fun a b => a.ts ≤ b.ts)) {ts : Nat} (hlt : ∀ b ∈ l, b.maxTs < ts) :
    (batchesMsgs l).filter (fun m => ts ≤ m.ts) = [] := by
  refine List.filter_eq_nil_iff.2 fun m hm => ?_
  obtain ⟨b, hb, hmb⟩ := mem_batchesMsgs.1 hm
  obtain ⟨x, hx, -, hxt⟩ := (hwf b hb).last
  have hsub : b.msgs.Sublist (batchesMsgs l) :=
    List.sublist_flatten_of_mem (List.mem_map.2 ⟨b, hb, rfl⟩)
  have := hlt b hb
  rcases rel_getLast (hs.sublist hsub) hx m hmb with rfl | h <;> simp <;> omega

/-- `load_index_for_timestamp_impl`'s scan, started with `last` as the entry before -/
theorem idxForTimestamp_go_mkIdx (start ts : Nat) (l : List Batch) (pos : Nat) (last : Option Idx) :
    match idxForTimestamp.go ts (mkIdx start pos l) last with
    | none => ∀ b ∈ l, b.maxTs < ts
    | some i => i = last.getD Idx.zero ∨
        ∃ pre rest, l = pre ++ rest ∧ i.pos = pos + logBytes pre ∧ ∀ b ∈ pre, b.maxTs < ts := by
  induction l generalizing pos last with
  | nil => simp [idxForTimestamp.go]
  | cons b l ih =>
    rw [mkIdx, idxForTimestamp.go]
    by_cases hb : ts ≤ b.maxTs
    · rw [if_pos hb]; exact Or.inl rfl
    · rw [if_neg hb]
      have := ih (pos + b.bytes) (some { rel := b.base + b.lastDelta - start, pos := pos, ts := b.maxTs })
      generalize idxForTimestamp.go ts _ _ = o at this ⊢
      cases o with
      | none => exact List.forall_mem_cons.2 ⟨Nat.lt_of_not_le hb, this⟩
      | some i =>
        refine Or.inr ?_
        rcases this with rfl | ⟨pre, rest, rfl, h1, h2⟩
        · exact ⟨[], b :: l, rfl, rfl, by simp⟩
        · exact ⟨b :: pre, rest, rfl, by simp [h1, Nat.add_assoc],
            List.forall_mem_cons.2 ⟨Nat.lt_of_not_le hb, h2⟩⟩

theorem idxForTimestamp_mkIdx (start ts : Nat) (l : List Batch) :
    match idxForTimestamp (mkIdx start 0 l) ts with
    | none => ∀ b ∈ l, b.maxTs < ts
    | some i => ∃ pre rest, l = pre ++ rest ∧ i.pos = logBytes pre ∧ ∀ b ∈ pre, b.maxTs < ts := by
  unfold idxForTimestamp
  by_cases he : (mkIdx start 0 l).isEmpty = true
  · rw [if_pos he]; exact ⟨[], l, rfl, rfl, by simp⟩
  · rw [if_neg he]
    have := idxForTimestamp_go_mkIdx start ts l 0 none
    generalize idxForTimestamp.go ts _ _ = o at this ⊢
    cases o with
    | none => exact this
    | some i =>
      rcases this with rfl | ⟨pre, rest, hl, hp, h⟩
      · exact ⟨[], l, rfl, rfl, by simp⟩
      · exact ⟨pre, rest, hl, by rw [hp, Nat.zero_add], h⟩

theorem readRange_to_end (pre rest : List Batch) {ep : Nat} (hep : logBytes (pre ++ rest) ≤ ep + 24) :
    readRange (pre ++ rest) 0 (logBytes pre) ep = rest := by
  have h := readRange_skip pre rest 0 ep
  rw [Nat.zero_add] at h
  rw [h]
  by_cases hr : rest = []
  · rw [hr]; rfl
  · obtain ⟨mid, b, rfl⟩ := exists_snoc_of_ne_nil hr
    have := b.bytes_pos
    simp only [logBytes_append, logBytes_cons, logBytes_nil] at hep
    exact readRange_take mid b [] (Nat.le_refl _) (by omega) (Or.inl rfl)

theorem Seg.loadFromDiskByTimestamp_eq (h : s.Inv cfg)
    (hts : (batchesMsgs s.log).Pairwise (fun a b => a.ts ≤ b.ts))
    (hsmall : logBytes s.log < 2^32) (ts count : Nat) :
    s.loadFromDiskByTimestamp ts count = ((batchesMsgs s.log).filter (fun m => ts ≤ m.ts)).take count := by
  unfold Seg.loadFromDiskByTimestamp
  have hspec := idxForTimestamp_mkIdx s.start ts s.log
  rw [h.idxFile]
  generalize idxForTimestamp (mkIdx s.start 0 s.log) ts = o at hspec ⊢
  cases o with
  | none => rw [filter_batches_older h.batches hts hspec, List.take_nil]
  | some i =>
    obtain ⟨pre, rest, hl, hpos, hpre⟩ := hspec
    have hwf := h.batches
    rw [hl] at hwf hts hsmall ⊢
    show List.take count (List.filter _ (batchesMsgs (readRange _ 0 i.pos _))) = _
    rw [hpos, readRange_to_end pre rest (by omega)]
    rw [batchesMsgs_append] at hts ⊢
    rw [List.filter_append,
      filter_batches_older (fun b hb => hwf b (by simp [hb])) (List.pairwise_append.1 hts).1 hpre]
    rfl

theorem ite_take {α : Type} (l : List α) (r : Nat) : (if r > 0 then l.take r else []) = l.take r := by
  split
  · rfl
  · next hr => rw [Nat.eq_zero_of_not_pos hr, List.take_zero]

theorem Seg.getByTimestamp_eq (h : s.Inv cfg) (hts : tsSorted s.msgs)
    (hsmall : logBytes s.log < 2^32) (ts count : Nat) :
    s.getByTimestamp ts count = (s.msgs.filter (fun m => ts ≤ m.ts)).take count := by
  rw [tsSorted_iff_pairwise, Seg.msgs, List.pairwise_append] at hts
  obtain ⟨hd, ha, _⟩ := hts
  unfold Seg.getByTimestamp
  split
  · next hc => rw [hc, List.take_zero]
  · rw [Seg.loadFromDiskByTimestamp_eq h hd hsmall]
    unfold Seg.msgs Seg.accMsgs at *
    generalize s.acc = o at ha ⊢
    cases o with
    | none => simp only [ite_self, List.append_nil, List.take_take, Nat.min_self]
    | some a =>
      -- the first matches on disk, then the buffer's for the count still missing: `take_append_take`
      simp only [Acc.getByTimestamp_eq ha, ite_take, take_append_take, List.take_take, Nat.min_self,
        List.filter_append]

theorem getByTimestamp_go_eq (ts : Nat) (l : List Seg) (hinv : ∀ s ∈ l, s.Inv cfg)
    (hsmall : ∀ s ∈ l, logBytes s.log < 2^32)
    (hts : (segsMsgs l).Pairwise (fun a b => a.ts ≤ b.ts)) (rem : Nat) :
    Part.getByTimestamp.go ts l rem = ((segsMsgs l).filter (fun m => ts ≤ m.ts)).take rem := by
  induction l generalizing rem with
  | nil => simp [Part.getByTimestamp.go]
  | cons s l ih =>
    rw [segsMsgs_cons] at hts ⊢
    obtain ⟨hs, hl, _⟩ := List.pairwise_append.1 hts
    have ih' := ih (fun t ht => hinv t (by simp [ht])) (fun t ht => hsmall t (by simp [ht])) hl
    have hsi := hinv s (by simp)
    rw [Part.getByTimestamp.go, List.filter_append]
    split
    · next hend =>
      have : s.msgs.filter (fun m => ts ≤ m.ts) = [] :=
        List.filter_eq_nil_iff.2 fun m hm => by have := hsi.endTs m hm; simp; omega
      rw [this, ih']; rfl
    · rw [← take_append_take, ← Seg.getByTimestamp_eq hsi (tsSorted_iff_pairwise.2 hs) (hsmall s (by simp)),
        ← ih']
      dsimp only
      split
      · next hz => rw [hz, ih', List.take_zero, List.append_nil]
      · rfl

/-- full statement `p.Inv cfg → 0 < count → p.getByTimestamp ts count = (abs p).pollTimestamp ts count`
is false for a segment whose log file reaches 4 GiB (`getByTimestamp_counterexample`, Iggy/Log/Refine.lean):
the model reads with end position `u32::MAX` and stops after the first batch starting at or beyond it.
Missing: `hsmall`.  (`0 < count` is not needed.) -/
theorem getByTimestamp_refines_partial {cfg : Cfg} {p : Part} (h : p.Inv cfg)
    (hsmall : ∀ s ∈ p.segs, logBytes s.log < 2^32) (ts count : Nat) :
    p.getByTimestamp ts count = (abs p).pollTimestamp ts count := by
  have hgo := getByTimestamp_go_eq ts p.segs h.segs hsmall (tsSorted_iff_pairwise.1 h.ts) count
  unfold Part.getByTimestamp SPart.pollTimestamp
  show _ = ((segsMsgs p.segs).filter (fun m => ts ≤ m.ts)).take count
  split
  · next hc =>
    rcases hc with hc | hc
    · have : p.segs = [] := by simpa using hc
      simp [this]
    · simp [hc]
  · exact hgo

/-! ## the size hypothesis is necessary

A segment (and a partition made of it) that satisfies the invariant and is sorted by timestamp, but
whose log file exceeds 4 GiB: its first batch holds one message of `2^32` bytes.  The read that
`load_messages_from_disk_by_timestamp` issues ends at `u32::MAX`, so it stops after the second batch
and the third batch's message is never returned. -/

def readTsCexCfg : Cfg := { reqToSave := 1, segSize := 2^33, cacheOn := false, idxCacheOn := false, dedupOn := false }
def readTsCexLog : List Batch :=
  [ { base := 0, lastDelta := 0, maxTs := 1, msgs := [{ off := 0, id := 0, ts := 1, size := 2^32, tag := 0 }] },
    { base := 1, lastDelta := 0, maxTs := 2, msgs := [{ off := 1, id := 1, ts := 2, size := 1, tag := 0 }] },
    { base := 2, lastDelta := 0, maxTs := 3, msgs := [{ off := 2, id := 2, ts := 3, size := 1, tag := 0 }] } ]
def readTsCexSeg : Seg :=
  { start := 0, cur := 2, endOff := 0, sizeBytes := logBytes readTsCexLog, lastIdxPos := logBytes readTsCexLog,
    endTs := 3, closed := false, log := readTsCexLog, idxFile := mkIdx 0 0 readTsCexLog, idxCache := none,
    acc := none }

def readTsCexPart : Part :=
  { segs := [readTsCexSeg], cur := 2, shouldInc := true, unsaved := 0, cache := none, dedup := none,
    consOffs := [], grpOffs := [], expiry := none,
    cnt := { msgs := 3, size := logBytes readTsCexLog, segs := 1 } }

theorem readTsCexPart_inv : readTsCexPart.Inv readTsCexCfg := by decide

theorem readTsCexSeg_sorted : tsSorted readTsCexSeg.msgs := by decide

theorem readTsCexSeg_large : ¬ logBytes readTsCexSeg.log < 2^32 := by decide

/-- the third batch is lost: the second batch starts at byte `2^32 + 24 ≥ u32::MAX`, the read stops -/
theorem readTsCexSeg_neq :
    readTsCexSeg.getByTimestamp 0 10 ≠ (readTsCexSeg.msgs.filter (fun m => 0 ≤ m.ts)).take 10 := by decide

example : (readTsCexSeg.getByTimestamp 0 10).map (·.off) = [0, 1] := by decide
example : ((readTsCexSeg.msgs.filter (fun m => 0 ≤ m.ts)).take 10).map (·.off) = [0, 1, 2] := by decide

theorem readTsCexPart_neq : readTsCexPart.getByTimestamp 0 10 ≠ (abs readTsCexPart).pollTimestamp 0 10 := by decide

end Iggy.Log

/-
C01 — partition offsets are gap-free, duplicate-free and assigned in send order.
Stated on the abstract partition `SPart` (Iggy/Log/Spec.lean) for every history of abstract operations
(`SOp`: append / purge / retention drop / restart / set expiry / offset ops), unbounded; the judge
checks the real server against exactly this specification on every run, and Iggy/Log/Refine.lean
relates the storage model L1 to it.
-/
import Iggy.Log.SpecRun
import Iggy.Log.RefineRun
namespace Iggy.Props.C01
open Iggy.Log

/-- In every reachable state the retained offsets are exactly `lo, lo+1, …, next-1`: no gap, no
duplicate, ascending — whatever mix of batch sizes, dedup drops, purges, retention deletions and
restarts led there. -/
theorem offsets_consecutive (cfg : Cfg) (e : Option Nat) (ops : List SOp) :
    ∃ lo, (SPart.run cfg e ops).msgs.map (·.off) = List.range' lo (SPart.run cfg e ops).msgs.length ∧
      lo + (SPart.run cfg e ops).msgs.length = (SPart.run cfg e ops).next :=
  SPart.offsets_range _ (SPart.run_inv cfg e ops)

/-- The reported current offset is the offset of the last accepted message: when anything is
retained, `cur` is the last retained offset. -/
theorem cur_is_last (cfg : Cfg) (e : Option Nat) (ops : List SOp) (m : Msg)
    (h : (SPart.run cfg e ops).msgs.getLast? = some m) : (SPart.run cfg e ops).cur = m.off := by
  obtain ⟨lo, hc, hn⟩ := SPart.run_inv cfg e ops
  have := hc.getLast h
  unfold SPart.cur; omega

/-- Every batch receives consecutive offsets starting at `next`, in the order its messages were given
(the k-th accepted message of the batch gets `next + k`). -/
theorem batch_contiguous_in_order (p : SPart) (now : Nat) (msgs : List InMsg) :
    ∃ acc, (p.append now msgs).msgs = p.msgs ++ acc ∧ consecutiveFrom p.next acc ∧
      (p.append now msgs).next = p.next + acc.length :=
  ⟨(number p.ids p.next now msgs 0 []).2, rfl, by simpa using number_consecutive p.ids p.next now msgs 0, rfl⟩

/-- with deduplication off every message of the batch is accepted, in the order given -/
theorem dedup_off_all_accepted (p : SPart) (now : Nat) (msgs : List InMsg) (h : p.ids = none) :
    ((p.append now msgs).msgs.drop p.msgs.length).map (fun m => (m.id, m.size, m.tag)) =
      msgs.map (fun m => (m.id, m.size, m.tag)) := by
  unfold SPart.append; simp only [h, List.drop_left']; exact number_none_all p.next now msgs 0

/-- A message dropped as a duplicate consumes no offset: a batch made only of duplicates leaves
`next` and the retained messages unchanged. -/
theorem duplicate_consumes_nothing (p : SPart) (now : Nat) (msgs : List InMsg)
    (h : (number p.ids p.next now msgs 0 []).2 = []) :
    (p.append now msgs).next = p.next ∧ (p.append now msgs).msgs = p.msgs := by
  unfold SPart.append; simp [h]

/-- purge restarts the numbering at 0; retention and restart never move `next` -/
theorem next_after_purge_drop_restart (p : SPart) (n : Nat) :
    p.purge.next = 0 ∧ (p.dropPrefix n).next = p.next ∧ p.restart.next = p.next := ⟨rfl, rfl, rfl⟩

/-! non-vacuity: a concrete history (two batches, a dedup drop, a retention drop, a restart) -/
example : (SPart.run exCfg none exHist).msgs.map (·.off) = [1, 2] ∧ (SPart.run exCfg none exHist).next = 3 := by decide


/-! ## the same on the storage model L1 (segments, accumulator, index files, cache)
`Reach cfg p`: `p` is reachable from `Part.create` by any number of append / flush / save / restart /
purge / expire / delete-oldest / evict / offset operations (Iggy/Log/Refine.lean). -/

/-- C01 on L1: in every reachable storage state the retained offsets are `lo..next-1`, gap-free and
duplicate-free, across roll-overs, flushes, saves, retention and restarts -/
theorem l1_offsets_consecutive {cfg : Cfg} {p : Part} (hseg : 0 < cfg.segSize) (r : Reach cfg p) :
    ∃ lo, p.msgs.map (·.off) = List.range' lo p.msgs.length ∧ lo + p.msgs.length = p.next :=
  reach_offsets_consecutive hseg r

/-- C01 on L1: a send is never rejected by the storage layer in a reachable state, and it does to the
abstract log exactly what the specification's append does (consecutive offsets from `next`) -/
theorem l1_append_refines {cfg : Cfg} {p : Part} (hseg : 0 < cfg.segSize) (r : Reach cfg p) {now : Nat}
    {msgs : List InMsg} (hsz : ∀ m ∈ msgs, 0 < m.size) (hts : ∀ m ∈ p.msgs, m.ts ≤ now) :
    ∃ p', p.append cfg now msgs = .ok p' ∧ Reach cfg p' ∧ abs p' = (abs p).append now msgs :=
  r.append_ok hseg hsz hts

/-- every reachable L1 state abstracts to a reachable L2 state: all statements above about
`SPart.run` hold of the storage model -/
theorem l1_simulates {cfg : Cfg} {p : Part} (hseg : 0 < cfg.segSize) (r : Reach cfg p) :
    ∃ e0 sops, abs p = SPart.run cfg e0 sops := r.simulates hseg

end Iggy.Props.C01

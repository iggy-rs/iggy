/-
C05 — restart reproduces the acknowledged catalogue exactly (replay equals runtime).

For every sequence of operations the model accepts — administrative commands acknowledged or refused,
data-plane traffic, restarts — replaying the state journal (`replay`, the model of
`SystemState::init`) never hits a panicking arm and yields exactly the catalogue the running server
shows: same numeric ids, names, settings, partition sets and consumer groups (`viewR … = viewY …`).
A restart (`Op.restart`, i.e. `loadCatalog` of the replayed journal) therefore changes nothing
visible, keeps every partition key, emits only `restarted` effects and reloads every partition from
its own files.

`viewY` / `viewR` (Iggy/Sys/Catalog/View.lean) are the catalogue as the get / list calls show it, computed
from the runtime state and from a replayed journal; `Sys.WF` (Iggy/Sys/Catalog/Invariant.lean) is the
invariant: structural well-formedness (`Sys.CatWF`: ids strictly ascending, names unique per scope,
every entity stored under its own id, partitions exactly `1..n`, every group recording the
topic's partition count) together with `Sync` (the journal replays, without panic, to the running
catalogue).
-/
import Iggy.Sys.CatalogLemmas
namespace Iggy.Props.C05
open Iggy.Sys Iggy.Log

/-- the freshly started, empty server satisfies the invariant -/
theorem wf_init (cfg : Cfg) (scfg : SCfg) (now : Nat) : (Sys.init cfg scfg now).WF :=
  Iggy.Sys.wf_init cfg scfg now

/-- every operation — all constructors of `Op`: administrative commands (successful or refused),
membership and data-plane operations, queries, maintenance, `restart` — preserves the invariant -/
theorem wf_step {y : Sys} (h : y.WF) (op : Op) : (step y op).1.WF := Iggy.Sys.wf_step h op

/-- structural well-formedness alone (no assumption on the journal) is preserved by every operation
other than `restart` -/
theorem catwf_step {y : Sys} (h : y.CatWF) (op : Op) (hop : ∀ cl, op ≠ .restart cl) : (step y op).1.CatWF :=
  Iggy.Sys.catwf_step h op hop

/-- every state reachable from the empty server satisfies the invariant -/
theorem wf_reachable (cfg : Cfg) (scfg : SCfg) (now : Nat) (ops : List Op) :
    (ops.foldl (fun y op => (step y op).1) (Sys.init cfg scfg now)).WF :=
  wf_run (Iggy.Sys.wf_init cfg scfg now) ops

/-- **replay equals runtime**: after any sequence of operations (restarts may be interleaved
anywhere, any number of times — `restart` is an `Op`), replaying the journal does not panic and
reproduces exactly the catalogue the server shows: nothing acknowledged is lost, renumbered,
resurrected or attached to a different entity -/
theorem replay_eq_runtime (cfg : Cfg) (scfg : SCfg) (now : Nat) (ops : List Op) :
    let y := ops.foldl (fun y op => (step y op).1) (Sys.init cfg scfg now)
    (replay y.journal).panicked = false ∧ viewR (replay y.journal) = viewY y :=
  (wf_run (Iggy.Sys.wf_init cfg scfg now) ops).2

/-- one journalled command: the entry written replays, on *any* replayed catalogue showing what the
server showed before the command, to what the server shows after it.  (This is the step of the
induction behind `replay_eq_runtime`; it is what each of the twelve administrative commands is
proved to satisfy.) -/
theorem step_journal {y : Sys} (h : y.WF) (op : Op) :
    ((step y op).1.journal = y.journal ∧ viewY (step y op).1 = viewY y) ∨
    (∃ e, (step y op).1.journal = y.journal ++ [e] ∧
      ∀ r, viewR r = viewY y → r.panicked = false →
        viewR (applyEntry r e) = viewY (step y op).1 ∧ (applyEntry r e).panicked = false) := by
  have hs := step_spec h op
  generalize step y op = r at hs
  cases hs with
  | same _ hv hj => exact Or.inl ⟨hj, hv⟩
  | logged e _ hj => exact Or.inr ⟨e, hj.journal, hj.replay⟩

/-- a restart never fails (the replay never panics) -/
theorem restart_never_fails {y : Sys} (h : y.WF) (cl : List (PKey × Nat)) : (step y (.restart cl)).2.1 = .ok := by
  rw [restart_eq h]

/-- a restart shows exactly the catalogue that was running -/
theorem restart_preserves_view {y : Sys} (h : y.WF) (cl : List (PKey × Nat)) :
    viewY (step y (.restart cl)).1 = viewY y := by
  rw [restart_eq h]; exact restart_view h cl

/-- … and does not touch the journal -/
theorem restart_keeps_journal {y : Sys} (h : y.WF) (cl : List (PKey × Nat)) :
    (step y (.restart cl)).1.journal = y.journal := by
  rw [restart_eq h]; rfl

/-- every partition key present before the restart is present after it, and no other -/
theorem restart_keeps_partitions {y : Sys} (h : y.WF) (cl : List (PKey × Nat)) :
    (step y (.restart cl)).1.allKeys = y.allKeys := by
  rw [allKeys_eq, allKeys_eq, restart_preserves_view h]

/-- the only effects of a restart on partitions are `restarted`: nothing is deleted (no data directory
of a live entity is discarded), nothing is created empty -/
theorem restart_effects {y : Sys} (h : y.WF) (cl : List (PKey × Nat)) :
    (step y (.restart cl)).2.2 = y.allKeys.map Effect.restarted := by
  rw [restart_eq h]

/-- every partition that existed before the restart is, afterwards, the old partition reloaded from
its own files (`Part.restart`) under the same (stream, topic, partition) ids — never a fresh one -/
theorem restart_keeps_data {y : Sys} (h : y.WF) (cl : List (PKey × Nat)) {sid tid pid : Nat} {s : Stream}
    {t : Topic} {p : Part} (hs : find? y.streams sid = some s) (ht : find? s.topics tid = some t)
    (hp : find? t.parts pid = some p) :
    ∃ s' t', find? (step y (.restart cl)).1.streams sid = some s' ∧ find? s'.topics tid = some t' ∧
      find? t'.parts pid = some (Part.restart y.cfg { p with expiry := t.expiry } y.now
        (((cl.find? (fun e => e.1 = (sid, tid, pid))).map (·.2)).getD 0)) :=
  Iggy.Sys.restart_keeps_data h cl hs ht hp

/-- any number of consecutive restarts shows the same catalogue with the same partition keys -/
theorem restarts_preserve_view {y : Sys} (h : y.WF) (cls : List (List (PKey × Nat))) :
    viewY ((cls.map Op.restart).foldl (fun y op => (step y op).1) y) = viewY y ∧
    ((cls.map Op.restart).foldl (fun y op => (step y op).1) y).allKeys = y.allKeys := by
  induction cls generalizing y with
  | nil => exact ⟨rfl, rfl⟩
  | cons cl cls ih =>
    have := ih (Iggy.Sys.wf_step h (.restart cl))
    simp only [List.map_cons, List.foldl_cons]
    exact ⟨this.1.trans (restart_preserves_view h cl), this.2.trans (restart_keeps_partitions h cl)⟩

/-- reachable states: a restart after any history changes nothing visible, loses no partition and
never fails -/
theorem restart_after_any_history (cfg : Cfg) (scfg : SCfg) (now : Nat) (ops : List Op) (cl : List (PKey × Nat)) :
    let y := ops.foldl (fun y op => (step y op).1) (Sys.init cfg scfg now)
    (step y (.restart cl)).2.1 = .ok ∧ viewY (step y (.restart cl)).1 = viewY y ∧
    (step y (.restart cl)).1.allKeys = y.allKeys ∧ (step y (.restart cl)).2.2 = y.allKeys.map Effect.restarted := by
  have h := wf_run (Iggy.Sys.wf_init cfg scfg now) ops
  exact ⟨restart_never_fails h cl, restart_preserves_view h cl, restart_keeps_partitions h cl, restart_effects h cl⟩

/-! ## non-vacuity: explicit and automatic ids, renames, deletes, re-creates, refused commands, data
traffic and two restarts -/

def exCfg : Cfg := ⟨10, 1000, true, true, false⟩
def exSCfg : SCfg := ⟨false, some 7, none⟩

def exOps : List Op := [
  .createStream (some 5) "a",                                   -- explicit id
  .createStream none "b",                                       -- allocated: 1
  .createTopic (.name "a") none "t" 2 .never .unlimited none,
  .createTopic (.num 5) (some 7) "u" 1 (.dur 100) .default (some 3),
  .createGroup (.num 5) (.name "t") none "g",
  .createGroup (.num 5) (.num 1) (some 4) "h",
  .send (.num 5) (.num 1) (.pid 1) [⟨1, 50, 1⟩],
  .updateStream (.name "a") "c",                                -- rename; later commands use the new name
  .updateTopic (.name "c") (.name "t") "t2" (.dur 5) .unlimited (some 2),
  .createParts (.num 5) (.name "t2") 2,
  .deleteParts (.num 5) (.num 1) 3,
  .deleteGroup (.num 5) (.num 1) (.name "g"),
  .deleteTopic (.name "c") (.num 7),
  .createTopic (.num 5) none "u" 3 .default .default none,      -- re-create under a new id (2)
  .deleteStream (.name "b"),
  .createStream none "b",                                       -- re-create: id 1 again
  .createStream (some 5) "zz",                                  -- refused: id taken
  .createStream none "c",                                       -- refused: name taken
  .deleteParts (.num 1) (.num 1) 1,                             -- refused: no such topic
  .restart [],
  .createStream none "d",                                       -- allocator restarts at 1, skips 1 → 2
  .send (.num 5) (.num 1) (.pid 1) [⟨2, 50, 2⟩],
  .restart []]

def exFinal : Sys := exOps.foldl (fun y op => (step y op).1) (Sys.init exCfg exSCfg 0)

theorem exFinal_view : viewY exFinal =
    [(1, ⟨1, "b", []⟩), (2, ⟨2, "d", []⟩),
     (5, ⟨5, "c", [(1, ⟨1, "t2", [1], some 5, none, 2, [(4, ⟨4, "h", 1⟩)]⟩),
                   (2, ⟨2, "u", [1, 2, 3], some 7, none, 1, []⟩)]⟩)] := by decide +kernel

example : viewY exFinal =
    [(1, ⟨1, "b", []⟩), (2, ⟨2, "d", []⟩),
     (5, ⟨5, "c", [(1, ⟨1, "t2", [1], some 5, none, 2, [(4, ⟨4, "h", 1⟩)]⟩),
                   (2, ⟨2, "u", [1, 2, 3], some 7, none, 1, []⟩)]⟩)] := exFinal_view

/-- sixteen commands were acknowledged and journalled; replaying them gives the same catalogue -/
example : exFinal.journal.length = 16 := by decide +kernel
example : (replay exFinal.journal).panicked = false ∧ viewR (replay exFinal.journal) = viewY exFinal := by
  decide +kernel

/-- one more restart: same catalogue (hence the same partition keys, which are a function of it).
Both sides are compared with the catalogue written out: deciding the equation between the two
computed views directly is far dearer. -/
example : viewY (step exFinal (.restart [])).1 = viewY exFinal := by rw [exFinal_view]; decide +kernel
example : exFinal.allKeys = [(5, 1, 1), (5, 2, 1), (5, 2, 2), (5, 2, 3)] := by rw [allKeys_eq, exFinal_view]; rfl

/-- the hypothesis `Sync` of the restart theorems is not vacuous and not automatic: a state whose
journal is empty but whose catalogue is not is well-formed structurally, and a restart wipes it -/
example : viewY (step { exFinal with journal := [] } (.restart [])).1 = [] := by decide

end Iggy.Props.C05

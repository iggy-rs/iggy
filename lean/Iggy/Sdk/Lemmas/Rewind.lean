/- C20 helpers: the world in which the stored offset can be moved back (`Iggy/Sdk/Rewind.lean`).
The invariant is `Inv true`: `Inv` without the facts that tie the server's stored offset to what this
client did (`CInv`, `PInv`, `srvFetched`, `srvYielded`, `polledOK`). Every event of `Spec.lean` preserves
it (`Inv.step`, proved once for both worlds), and so does a rewind (`Inv.lower`). -/
import Iggy.Sdk.Rewind
import Iggy.Sdk.Lemmas.Steps
namespace Iggy.Sdk
variable {rew : Bool} {cfg : CCfg} {pid : Nat} {strat0 : Strat} {srv0 : Srv}

theorem Srv.rewind_enabled (s : Srv) (o so : Nat) (hs : s.stored = some so) (h : o ≤ so) :
    s.rewind o = { s with stored := some o } := by
  simp [Srv.rewind, hs, h]

theorem Srv.rewind_disabled (s : Srv) (o : Nat) (h : ∀ so, s.stored = some so → so < o) : s.rewind o = s := by
  unfold Srv.rewind
  cases hs : s.stored with
  | none => rfl
  | some so => exact if_neg (Nat.not_le.mpr (h so hs))

theorem Srv.rewind_len (s : Srv) (o : Nat) : (s.rewind o).len = s.len := by
  unfold Srv.rewind; split
  · split <;> rfl
  · rfl

theorem Srv.rewind_resume (s : Srv) (o : Nat) : resume (s.rewind o).stored ≤ resume s.stored := by
  obtain ⟨len, _ | so⟩ := s
  · exact Nat.le_refl _
  · unfold Srv.rewind
    dsimp only
    split
    · exact Nat.succ_le_succ ‹o ≤ so›
    · exact Nat.le_refl _

theorem Inv.lower {c : Cons} {s s' : Srv} {tr : List Obs} (h : Inv rew cfg pid strat0 srv0 (c, s) tr)
    (hlen : s'.len = s.len) (hst : resume s'.stored ≤ resume s.stored) :
    Inv true cfg pid strat0 srv0 (c, s') tr := by
  refine ⟨?_, ?_⟩
  · cases h.phase with
    | fresh hi hc hb hp hs hst => exact .fresh hi hc hb hp hs hst
    | going a n b hi hc hcp hb hlen' hso hst' hp hC hP =>
      exact .going a n b hi hc hcp hb (hlen ▸ hlen')
        (fun hn => resume_le_iff.mp (Nat.le_trans hst (resume_le_iff.mpr (hso hn)))) hst' hp
        (fun e => nomatch e) (fun e => nomatch e)
  · exact { h.g with
      genuine := fun y hy => hlen ▸ h.g.genuine y hy
      srvFetched := fun e => nomatch e
      srvYielded := fun e => nomatch e
      srvBelow := fun hp => (h.g.srvBelow hp).imp (Nat.le_trans hst) fun ⟨o, ho, e⟩ => ⟨o, ho, Nat.le_trans hst e⟩
      polledOK := fun e => nomatch e }

theorem Inv.weaken {sys : Sys} {tr : List Obs} (h : Inv rew cfg pid strat0 srv0 sys tr) :
    Inv true cfg pid strat0 srv0 sys tr :=
  Inv.lower (c := sys.1) (s := sys.2) h rfl (Nat.le_refl _)

theorem Inv.stepR (hg : Good cfg strat0) {sys : Sys} {tr : List Obs}
    (h : Inv true cfg pid strat0 srv0 sys tr) (e : EvR) :
    Inv true cfg pid strat0 srv0 (stepR cfg pid strat0 sys e).1 (tr ++ (stepR cfg pid strat0 sys e).2) := by
  cases e with
  | base e => exact h.step hg e
  | rewind o =>
    simp only [Iggy.Sdk.stepR, List.append_nil]
    exact Inv.lower (c := sys.1) (s := sys.2) h (sys.2.rewind_len o) (sys.2.rewind_resume o)

theorem ReachR.inv (hg : Good cfg strat0) {sys : Sys} {tr : List Obs} (h : ReachR cfg pid strat0 srv0 sys tr) :
    Inv true cfg pid strat0 srv0 sys tr := by
  induction h with
  | init => exact Inv.init
  | step e _ ih => exact ih.stepR hg e

theorem Reach.reachR {sys : Sys} {tr : List Obs} (h : Reach cfg pid strat0 srv0 sys tr) :
    ReachR cfg pid strat0 srv0 sys tr := by
  induction h with
  | init => exact .init
  | step e _ ih => exact ih.step (.base e)

theorem runR_reachR {sys : Sys} {tr : List Obs} (h : ReachR cfg pid strat0 srv0 sys tr) (evs : List EvR) :
    ReachR cfg pid strat0 srv0 (runR cfg pid strat0 sys evs).1 (tr ++ (runR cfg pid strat0 sys evs).2) := by
  induction evs generalizing sys tr with
  | nil => simpa [runR] using h
  | cons e es ih =>
    have := ih (h.step e)
    simpa [runR, List.append_assoc] using this

theorem runR_append (sys : Sys) (es fs : List EvR) :
    runR cfg pid strat0 sys (es ++ fs) =
      ((runR cfg pid strat0 (runR cfg pid strat0 sys es).1 fs).1,
       (runR cfg pid strat0 sys es).2 ++ (runR cfg pid strat0 (runR cfg pid strat0 sys es).1 fs).2) := by
  induction es generalizing sys with
  | nil => simp [runR]
  | cons e es ih => simp [runR, ih, List.append_assoc]

theorem reachR_runR {sys : Sys} {tr : List Obs} (h : ReachR cfg pid strat0 srv0 sys tr) :
    ∃ evs, runR cfg pid strat0 (Cons.new strat0, srv0) evs = (sys, tr) := by
  induction h with
  | init => exact ⟨[], rfl⟩
  | step e _ ih =>
    obtain ⟨evs, he⟩ := ih
    exact ⟨evs ++ [e], by rw [runR_append, he]; simp [runR]⟩

end Iggy.Sdk

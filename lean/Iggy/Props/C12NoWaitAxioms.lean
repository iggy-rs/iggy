import Iggy.Props.C12NoWait
#print axioms Iggy.Props.C12NoWait.byOffset_prefix
#print axioms Iggy.Props.C12NoWait.byOffset_prefix_spec
#print axioms Iggy.Props.C12NoWait.byOffset_complete_when_settled
#print axioms Iggy.Props.C12NoWait.byOffset_monotone
#print axioms Iggy.Props.C12NoWait.byTs_prefix
#print axioms Iggy.Props.C12NoWait.byTs_prefix_same
#print axioms Iggy.Props.C12NoWait.byTs_prefix_spec
#print axioms Iggy.Props.C12NoWait.byTs_complete_when_settled
#print axioms Iggy.Props.C12NoWait.byTs_monotone
#print axioms Iggy.Props.C12NoWait.first_check_necessary
#print axioms Iggy.Props.C12NoWait.truncation_necessary
#print axioms Iggy.Props.C12NoWait.pred_check_necessary
#print axioms Iggy.Props.C12NoWait.pred_older_necessary

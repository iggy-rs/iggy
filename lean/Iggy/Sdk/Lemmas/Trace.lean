/- C20 helpers: reading traces, `Always` -/
import Iggy.Sdk.Spec
namespace Iggy.Sdk

@[simp] theorem yieldsOf_nil : yieldsOf [] = [] := rfl
@[simp] theorem yieldsOf_append (a b : List Obs) : yieldsOf (a ++ b) = yieldsOf a ++ yieldsOf b :=
  List.filterMap_append ..
@[simp] theorem yieldsOf_cons_yield (y : Yield) (t : List Obs) : yieldsOf (.yield y :: t) = y :: yieldsOf t := rfl
@[simp] theorem yieldsOf_cons_polled (b r) (t : List Obs) : yieldsOf (.polled b r :: t) = yieldsOf t := rfl
@[simp] theorem yieldsOf_cons_store (o k) (t : List Obs) : yieldsOf (.store o k :: t) = yieldsOf t := rfl
@[simp] theorem yieldsOf_cons_dropped (t : List Obs) : yieldsOf (.dropped :: t) = yieldsOf t := rfl

@[simp] theorem offsOf_nil : offsOf [] = [] := rfl
@[simp] theorem offsOf_append (a b : List Obs) : offsOf (a ++ b) = offsOf a ++ offsOf b := by
  simp only [offsOf, yieldsOf_append, List.map_append]
@[simp] theorem offsOf_cons_yield (y : Yield) (t : List Obs) : offsOf (.yield y :: t) = y.msg.off :: offsOf t := rfl
@[simp] theorem offsOf_cons_polled (b r) (t : List Obs) : offsOf (.polled b r :: t) = offsOf t := rfl
@[simp] theorem offsOf_cons_store (o k) (t : List Obs) : offsOf (.store o k :: t) = offsOf t := rfl
@[simp] theorem offsOf_cons_dropped (t : List Obs) : offsOf (.dropped :: t) = offsOf t := rfl

@[simp] theorem fetchedOf_nil : fetchedOf [] = [] := rfl
@[simp] theorem fetchedOf_append (a b : List Obs) : fetchedOf (a ++ b) = fetchedOf a ++ fetchedOf b :=
  List.flatMap_append ..
@[simp] theorem fetchedOf_cons_yield (y : Yield) (t : List Obs) : fetchedOf (.yield y :: t) = fetchedOf t := rfl
@[simp] theorem fetchedOf_cons_polled (b r) (t : List Obs) :
    fetchedOf (.polled b r :: t) = r.map (·.off) ++ fetchedOf t := rfl
@[simp] theorem fetchedOf_cons_store (o k) (t : List Obs) : fetchedOf (.store o k :: t) = fetchedOf t := rfl
@[simp] theorem fetchedOf_cons_dropped (t : List Obs) : fetchedOf (.dropped :: t) = fetchedOf t := rfl

theorem snoc_ind {α : Type} {P : List α → Prop} (nil : P []) (snoc : ∀ l a, P l → P (l ++ [a])) :
    ∀ l, P l := by
  intro l
  rw [← List.reverse_reverse l]
  generalize l.reverse = r
  induction r with
  | nil => exact nil
  | cons a r ih => simpa using snoc _ a ih

theorem incFold_append (tr new : List Obs) (h : Obs.dropped ∉ new) :
    incFold (tr ++ new) = (pastIncs tr, curInc tr ++ new) := by
  simp only [pastIncs, curInc, incFold, List.foldl_append]
  generalize List.foldl _ _ tr = acc
  induction new generalizing acc with
  | nil => simp
  | cons o new ih =>
    rw [List.mem_cons, not_or] at h
    rw [List.foldl_cons, if_neg (Ne.symm h.1), ih h.2, List.append_assoc, List.singleton_append]

@[simp] theorem curInc_nil : curInc [] = [] := rfl
@[simp] theorem pastIncs_nil : pastIncs [] = [] := rfl
@[simp] theorem curInc_snoc_dropped (tr : List Obs) : curInc (tr ++ [.dropped]) = [] := by
  simp [curInc, incFold, List.foldl_append]
@[simp] theorem pastIncs_snoc_dropped (tr : List Obs) : pastIncs (tr ++ [.dropped]) = pastIncs tr ++ [curInc tr] := by
  simp [pastIncs, curInc, incFold, List.foldl_append]

theorem curInc_append (tr new : List Obs) (h : Obs.dropped ∉ new) : curInc (tr ++ new) = curInc tr ++ new :=
  by rw [curInc, incFold_append tr new h]

theorem pastIncs_append (tr new : List Obs) (h : Obs.dropped ∉ new) : pastIncs (tr ++ new) = pastIncs tr :=
  by rw [pastIncs, incFold_append tr new h]

theorem curInc_snoc (tr : List Obs) (o : Obs) (h : o ≠ .dropped) : curInc (tr ++ [o]) = curInc tr ++ [o] :=
  curInc_append tr [o] (by simpa using h.symm)

theorem pastIncs_snoc (tr : List Obs) (o : Obs) (h : o ≠ .dropped) : pastIncs (tr ++ [o]) = pastIncs tr :=
  pastIncs_append tr [o] (by simpa using h.symm)

theorem offsOf_curInc_snoc_yield (tr : List Obs) (y : Yield) :
    offsOf (curInc (tr ++ [.yield y])) = offsOf (curInc tr) ++ [y.msg.off] := by
  rw [curInc_snoc tr _ (by simp), offsOf_append]; rfl

theorem offsOf_curInc_snoc_polled (tr : List Obs) (b r) :
    offsOf (curInc (tr ++ [.polled b r])) = offsOf (curInc tr) := by
  rw [curInc_snoc tr _ (by simp), offsOf_append]; exact List.append_nil _

theorem offsOf_curInc_snoc_store (tr : List Obs) (o k) :
    offsOf (curInc (tr ++ [.store o k])) = offsOf (curInc tr) := by
  rw [curInc_snoc tr _ (by simp), offsOf_append]; exact List.append_nil _

theorem yieldsOf_incarnations (tr : List Obs) : (incarnations tr).flatMap yieldsOf = yieldsOf tr := by
  induction tr using snoc_ind with
  | nil => rfl
  | snoc tr x ih =>
    rw [yieldsOf_append, ← ih]
    by_cases hx : x = .dropped
    · subst hx; simp [incarnations]
    · simp [incarnations, curInc_snoc tr x hx, pastIncs_snoc tr x hx]

theorem yieldsOf_incarnations_sub (tr : List Obs) : ∀ inc ∈ incarnations tr, ∀ y ∈ yieldsOf inc, y ∈ yieldsOf tr := by
  intro inc hinc y hy
  rw [← yieldsOf_incarnations tr]
  exact List.mem_flatMap.mpr ⟨inc, hinc, hy⟩

theorem offsOf_curInc_sub (tr : List Obs) : ∀ o ∈ offsOf (curInc tr), o ∈ offsOf tr := by
  intro o ho
  obtain ⟨y, hy, rfl⟩ := List.mem_map.mp ho
  exact List.mem_map.mpr ⟨y, yieldsOf_incarnations_sub tr _ (by simp [incarnations]) y hy, rfl⟩

theorem Always.nil (P : List Obs → Obs → Prop) : Always P [] := by
  intro pre x post h; simp at h

theorem Always.append {P : List Obs → Obs → Prop} {tr new : List Obs}
    (h : Always P tr) (hn : Always (fun pre x => P (tr ++ pre) x) new) : Always P (tr ++ new) := by
  intro pre x post e
  rcases List.append_eq_append_iff.mp e with ⟨a', h1, h2⟩ | ⟨c', h1, h2⟩
  · -- pre = tr ++ a'
    subst h1
    exact hn a' x post h2
  · -- tr = pre ++ c'
    cases c' with
    | nil =>
      simp at h1 h2; subst h1
      exact (by simpa using hn [] x post h2.symm)
    | cons y c' =>
      obtain ⟨rfl, rfl⟩ := h2
      exact h pre x c' h1

theorem Always.one {P : List Obs → Obs → Prop} {x : Obs} (h : P [] x) : Always P [x] := by
  intro pre y post e
  cases pre with
  | nil => cases e; exact h
  | cons a pre => cases pre <;> cases e

theorem Always.cons {P : List Obs → Obs → Prop} {x : Obs} {xs : List Obs}
    (h : P [] x) (hs : Always (fun pre y => P (x :: pre) y) xs) : Always P (x :: xs) :=
  (Always.one h).append hs

theorem Always.snoc {P : List Obs → Obs → Prop} {tr : List Obs} {x : Obs} (h : Always P tr) (hx : P tr x) :
    Always P (tr ++ [x]) :=
  h.append (Always.one (by simpa using hx))

theorem Always.mono {P Q : List Obs → Obs → Prop} {tr : List Obs} (h : Always P tr)
    (hpq : ∀ pre x, P pre x → Q pre x) : Always Q tr :=
  fun pre x post e => hpq pre x (h pre x post e)

theorem Always.prefix {P : List Obs → Obs → Prop} {tr new : List Obs} (h : Always P (tr ++ new)) : Always P tr := by
  intro pre x post e
  exact h pre x (post ++ new) (by rw [e]; simp)

theorem Always.last {P : List Obs → Obs → Prop} {tr : List Obs} {x : Obs} (h : Always P (tr ++ [x])) : P tr x :=
  h tr x [] rfl

end Iggy.Sdk

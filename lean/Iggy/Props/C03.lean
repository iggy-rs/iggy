/-
C03 — a clean restart preserves every message, offset and the append position.
`Part.restart` = graceful shutdown (every buffer persisted: `Part.save`) followed by `Part.load` on the
durable files only (log files, index files, offset files); everything else is rebuilt.
-/
import Iggy.Log.RefineRun
namespace Iggy.Props.C03
open Iggy.Log

/-- After a restart every partition holds the same messages at the same offsets with identical
content, reports the same append position, the same stored consumer offsets and the same message and
segment counts; its reported size is that of the state saved at shutdown. -/
theorem restart_same {cfg : Cfg} {p : Part} (hseg : 0 < cfg.segSize) (r : Reach cfg p) {now : Nat}
    (hnow : ∀ m ∈ p.msgs, m.ts ≤ now) (n : Nat) :
    (p.restart cfg now n).msgs = p.msgs ∧ (p.restart cfg now n).next = p.next ∧
      (p.restart cfg now n).consOffs = p.consOffs ∧ (p.restart cfg now n).grpOffs = p.grpOffs ∧
      (p.restart cfg now n).expiry = p.expiry ∧
      (p.restart cfg now n).cnt.msgs = p.cnt.msgs ∧
      (p.restart cfg now n).cnt.size = (p.save cfg).cnt.size ∧
      (p.restart cfg now n).cnt.segs = p.cnt.segs := reach_restart_same hseg r hnow n

/-- No restart makes a previously readable message unreadable or alters it: every poll gives the same
answer after the restart. -/
theorem restart_same_polls {cfg : Cfg} {p : Part} (hseg : 0 < cfg.segSize) (r : Reach cfg p) {now : Nat}
    (hnow : ∀ m ∈ p.msgs, m.ts ≤ now) (n : Nat) {off count : Nat} (hc : 0 < count) :
    (p.restart cfg now n).getByOffset off count = p.getByOffset off count :=
  reach_restart_poll hseg r hnow n hc

/-- The restarted state is again reachable and satisfies the storage invariant, so traffic continues
after the reload exactly as before: the next accepted message receives the next offset (C01 applies
to every later operation, including further restarts — any number, by induction over `Reach`). -/
theorem restart_reachable {cfg : Cfg} {p : Part} (hseg : 0 < cfg.segSize) (r : Reach cfg p) {now : Nat}
    (hnow : ∀ m ∈ p.msgs, m.ts ≤ now) (n : Nat) :
    Reach cfg (p.restart cfg now n) ∧ (p.restart cfg now n).Inv cfg :=
  ⟨Reach.restart now n r hnow, (Reach.restart now n r hnow).inv hseg⟩

/-- no offset is used twice across a restart: the first append after it starts at the old `next` -/
theorem next_after_restart {cfg : Cfg} {p : Part} (hseg : 0 < cfg.segSize) (r : Reach cfg p) {now now' : Nat}
    (hnow : ∀ m ∈ p.msgs, m.ts ≤ now) (n : Nat) {msgs : List InMsg} (hsz : ∀ m ∈ msgs, 0 < m.size)
    (hts : ∀ m ∈ (p.restart cfg now n).msgs, m.ts ≤ now') :
    ∃ p', (p.restart cfg now n).append cfg now' msgs = .ok p' ∧
      (abs p').msgs = p.msgs ++ (number (p.restart cfg now n).dedup p.next now' msgs 0 []).2 := by
  obtain ⟨p', hok, _, habs⟩ := (Reach.restart now n r hnow).append_ok hseg hsz hts
  refine ⟨p', hok, ?_⟩
  rw [habs]
  have h := reach_restart_same hseg r hnow n
  show (abs (p.restart cfg now n)).msgs ++ _ = _
  simp only [abs]
  rw [h.1, h.2.1]

/-! non-vacuity: `rxOps` (Iggy/Log/RefineRun.lean) is an admissible nine-operation history containing
a restart; its final state is reachable -/
example : Reach rxCfg ((Part.create rxCfg none 0).runOps rxCfg rxOps) := reach_of_run none 0 rxOps rxOps_admissible

end Iggy.Props.C03

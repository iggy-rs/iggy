/-
Restart in a state satisfying the catalogue invariant: same catalogue, same partition keys, only
`restarted` effects, and every partition keeps its data.
-/
import Iggy.Sys.Catalog.Invariant
namespace Iggy.Sys
open Iggy.Log

def allKeysV (V : CatView) : List PKey :=
  (V.map (fun se => (se.2.topics.map (fun te => te.2.parts.map (fun p => (se.1, te.1, p)))).flatten)).flatten

theorem allKeys_eq (y : Sys) : y.allKeys = allKeysV (viewY y) := by
  simp [Sys.allKeys, allKeysV, viewY, mapE, Stream.view, Topic.view, List.map_map, Function.comp_def]

theorem filter_contains_self (K : List PKey) : K.filter (fun k => K.contains k) = K := by
  rw [List.filter_eq_self]
  intro a ha
  simpa using ha

theorem filter_not_contains_self (K : List PKey) : K.filter (fun k => !K.contains k) = [] := by
  rw [List.filter_eq_nil_iff]
  intro a ha
  simpa using ha

theorem restart_view {y : Sys} (h : y.WF) (cl : List (PKey × Nat)) :
    viewY (loadCatalog y (replay y.journal) cl) = viewY y := by
  rw [viewY_loadCatalog y (by rw [h.2.2]; exact h.1)]
  exact h.2.2

theorem restart_eq {y : Sys} (h : y.WF) (cl : List (PKey × Nat)) :
    step y (.restart cl) = (loadCatalog y (replay y.journal) cl, .ok, y.allKeys.map Effect.restarted) := by
  have hk : (loadCatalog y (replay y.journal) cl).allKeys = y.allKeys := by
    rw [allKeys_eq, allKeys_eq, restart_view h]
  simp only [step, h.2.1, Bool.false_eq_true, if_false, hk, filter_contains_self, filter_not_contains_self,
    List.map_nil, List.nil_append]

theorem find?_range_succ {α : Type} (P : Nat → α) {n j : Nat} (hj : j < n) :
    find? ((List.range n).map (fun i => (i + 1, P i))) (j + 1) = some (P j) := by
  apply find?_of_mem
  · unfold Asc
    have := List.pairwise_lt_range' (s := 1) (n := n)
    rw [← range_succ_keys n P, List.pairwise_map] at this
    exact this
  · exact List.mem_map.2 ⟨j, List.mem_range.2 hj, rfl⟩

/-- no data directory of a live entity is discarded: every partition that existed before the restart
is the *restarted* old partition (its messages and offsets reloaded from its files), never a fresh one -/
theorem restart_keeps_data {y : Sys} (h : y.WF) (cl : List (PKey × Nat)) {sid tid pid : Nat} {s : Stream}
    {t : Topic} {p : Part} (hs : find? y.streams sid = some s) (ht : find? s.topics tid = some t)
    (hp : find? t.parts pid = some p) :
    ∃ s' t', find? (step y (.restart cl)).1.streams sid = some s' ∧ find? s'.topics tid = some t' ∧
      find? t'.parts pid = some (Part.restart y.cfg { p with expiry := t.expiry } y.now
        (((cl.find? (fun e => e.1 = (sid, tid, pid))).map (·.2)).getD 0)) := by
  rw [restart_eq h]
  -- by `Sync` the replayed catalogue has, under `sid` and `tid`, entries with the views of `s` and `t`: `pid` is one
  -- of the `tr.nparts` partitions `loadCatalog` rebuilds, and its lookup of the old partition finds `p`
  have hsv : find? (viewR (replay y.journal)) sid = some s.view := by
    rw [h.2.2, viewY, find?_mapE, hs]; rfl
  obtain ⟨sr, hsr, hsrv⟩ := find?_viewR hsv
  have htv : find? sr.view.topics tid = some t.view := by
    rw [hsrv, Stream.view, find?_mapE, ht]; rfl
  obtain ⟨tr, htr, htrv⟩ := find?_view_topics htv
  have hT : t.view.WF := (h.1.stream (mem_of_find? hs)).topic (mem_of_find? ht)
  have hn := nparts_of_view htrv
  have hexp : tr.expiry = t.expiry := congrArg TV.expiry htrv
  have hpid : ∃ j, pid = j + 1 ∧ j < tr.nparts := by
    have : pid ∈ t.parts.map (·.1) := List.mem_map.2 ⟨(pid, p), mem_of_find? hp, rfl⟩
    rw [hT.part_keys, List.mem_range'_1] at this
    exact ⟨pid - 1, (Nat.sub_add_cancel this.1).symm, hn ▸ Nat.sub_lt_left_of_lt_add this.1 this.2⟩
  obtain ⟨j, rfl, hj⟩ := hpid
  refine ⟨?s', ?t', ?h1, ?h2, ?h3⟩
  case h1 =>
    simp only [loadCatalog]
    rw [find?_map_snd, hsr]; rfl
  case h2 =>
    simp only
    rw [find?_map_snd, htr]; rfl
  case h3 =>
    simp only
    rw [find?_range_succ _ hj]
    simp only [hs, ht, hp, Option.bind_some, hexp]

end Iggy.Sys

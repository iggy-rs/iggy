import Iggy.Props.C14
#print axioms Iggy.Props.C14.expire_deletes_only
#print axioms Iggy.Props.C14.never_expire_loses_nothing
#print axioms Iggy.Props.C14.expire_reachable
#print axioms Iggy.Props.C14.poll_below_earliest
#print axioms Iggy.Props.C14.survivors_served_as_before

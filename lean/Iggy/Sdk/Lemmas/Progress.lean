/- C20 helpers: progress (the consumer does not stall) -/
import Iggy.Sdk.Lemmas.Rewind
namespace Iggy.Sdk
variable {rew : Bool} {cfg : CCfg} {pid : Nat} {strat0 : Strat} {srv0 : Srv}

theorem poll_fresh_obs (cfg : CCfg) (pid : Nat) (strat0 : Strat) (c : Cons) (s : Srv)
    (hc : c.consumed = []) (hb : c.buffered = []) (hs : c.stored = []) (hbatch : 1 ≤ cfg.batch)
    (hlen : s.start c.strat cfg.batch < s.len) :
    ∃ r, (step cfg pid strat0 (c, s) .poll).2 =
      [.polled s.stored r, .yield ⟨pid, msgAt (s.start c.strat cfg.batch)⟩] := by
  rw [step_poll_fresh cfg pid strat0 c s hc hs hb _ _ rfl rfl, if_neg (by omega)]
  exact ⟨_, rfl⟩

theorem poll_going_obs_yield (cfg : CCfg) (hrep : cfg.replay = false) (pid : Nat) (strat0 : Strat) (c : Cons) (s : Srv)
    (l : Nat) (hc : c.consumed = [(pid, l)]) (hb : c.buffered = [])
    (hst : s.start c.strat cfg.batch ≤ l + 1)
    (hreach : l + 1 < min (s.start c.strat cfg.batch + cfg.batch) s.len) :
    ∃ r, (step cfg pid strat0 (c, s) .poll).2 = [.polled s.stored r, .yield ⟨pid, msgAt (l + 1)⟩] := by
  rw [step_poll_going cfg hrep pid strat0 c s l hc hb (by omega) _ _ rfl rfl hst, if_neg (by omega)]
  exact ⟨_, rfl⟩

/-- the synchronous commit of `create_poll_messages_future` (the branch of /repo commits 47819f3 and 39592a5).
`hlag` is its guard: the client believes the server lags, or the strategy is `next`, where a reply that was
consumed already shows the lag by itself -/
theorem poll_going_sync (cfg : CCfg) (hrep : cfg.replay = false) (pid : Nat) (strat0 : Strat) (c : Cons) (s : Srv)
    (l : Nat) (hc : c.consumed = [(pid, l)]) (hb : c.buffered = []) (hl : l < s.len) (hbatch : 1 ≤ cfg.batch)
    (hst : s.start c.strat cfg.batch ≤ l)
    (hreach : min (s.start c.strat cfg.batch + cfg.batch) s.len ≤ l + 1)
    (hauto : cfg.autoCommitEnabled = true) (hpol : cfg.polling = false)
    (hlag : (c.stored.get? pid).getD 0 < l ∨ c.strat = .next) :
    ∃ r, step cfg pid strat0 (c, s) .poll =
      (({ c with curPart := pid, stored := c.stored.set pid l }, { s with stored := some l }),
       [.polled s.stored r, .store l true]) := by
  rw [step_poll_going cfg hrep pid strat0 c s l hc hb hl _ _ rfl rfl (by omega), if_pos hreach,
    if_pos ⟨by omega, by rcases hlag with h | h <;> simp [hauto, hpol, localStored, h]⟩]
  exact ⟨_, rfl⟩

theorem start_next {c : Cons} (h : c.strat = .next) (s : Srv) (n : Nat) : s.start c.strat n = resume s.stored := by
  rw [h]; rfl

theorem poll_sync_then_yield (cfg : CCfg) (hrep : cfg.replay = false) (hbatch : 1 ≤ cfg.batch)
    (hauto : cfg.autoCommitEnabled = true) (hpol : cfg.polling = false) (pid : Nat) (c : Cons) (s : Srv) (l : Nat)
    (hstrat : c.strat = .next) (hc : c.consumed = [(pid, l)]) (hb : c.buffered = []) (hmore : l + 1 < s.len)
    (hback : min (resume s.stored + cfg.batch) s.len ≤ l + 1) :
    ∃ r r', (step cfg pid .next (c, s) .poll).2 = [.polled s.stored r, .store l true] ∧
      (step cfg pid .next (step cfg pid .next (c, s) .poll).1 .poll).2 =
        [.polled (some l) r', .yield ⟨pid, msgAt (l + 1)⟩] := by
  have hstart := start_next hstrat s cfg.batch
  obtain ⟨r, h1⟩ := poll_going_sync cfg hrep pid .next c s l hc hb (by omega) hbatch
    (by rw [hstart]; omega) (by rw [hstart]; exact hback) hauto hpol (Or.inr hstrat)
  obtain ⟨r', h2⟩ := poll_going_obs_yield cfg hrep pid .next
    { c with curPart := pid, stored := c.stored.set pid l } { s with stored := some l } l hc hb
    (by simp [hstrat, Srv.start, resume]) (by simp [hstrat, Srv.start, resume]; omega)
  rw [h1]
  exact ⟨r, r', rfl, h2⟩

theorem Inv.idle {c : Cons} {s : Srv} {tr : List Obs} (h : Inv rew cfg pid .next srv0 (c, s) tr) (hb : c.buffered = []) :
    c.strat = .next ∧
    ((c.consumed = [] ∧ c.stored = [] ∧ wanted pid (c, s) = resume s.stored) ∨
     ∃ l, c.consumed = [(pid, l)] ∧ wanted pid (c, s) = l + 1 ∧ resume s.stored ≤ l + 1 ∧
       (rew = false → cfg.polling = true → l + 1 < resume s.stored + cfg.batch)) := by
  cases h.phase with
  | fresh hi hc _ _ hs hst => exact ⟨hst, Or.inl ⟨hc, hs, by simp [wanted, show c.consumed = [] from hc]⟩⟩
  | going a n b hi hc hcp hb' hlen hso hst hp' hC hP =>
    obtain rfl : b = 0 := by simpa [show c.buffered = _ from hb'] using hb
    refine ⟨hst, Or.inr ⟨a + n, hc, by simp [wanted, show c.consumed = _ from hc], resume_le_iff.mpr (hso rfl),
      fun hrw hpol => ?_⟩⟩
    obtain ⟨_, _, so, hso', hle⟩ := hP hrw rfl hpol
    rw [show s.stored = some so from hso']
    exact Nat.lt_of_le_of_lt hle (Nat.add_lt_add_right (Nat.lt_succ_self so) _)

theorem poll_wanted (hg : Good cfg .next) {sys : Sys} {tr : List Obs} (h : Inv rew cfg pid .next srv0 sys tr)
    (hb : sys.1.buffered = []) (hreach : wanted pid sys < min (resume sys.2.stored + cfg.batch) sys.2.len) :
    ∃ r, (step cfg pid .next sys .poll).2 = [.polled sys.2.stored r, .yield ⟨pid, msgAt (wanted pid sys)⟩] := by
  obtain ⟨c, s⟩ := sys
  obtain ⟨hst, ⟨hc, hs, hw⟩ | ⟨l, hc, hw, hle, _⟩⟩ := h.idle hb
  · rw [hw, ← start_next hst s cfg.batch] at hreach ⊢
    exact poll_fresh_obs cfg pid .next c s hc hb hs hg.batch (Nat.lt_of_lt_of_le hreach (Nat.min_le_right ..))
  · rw [hw] at hreach ⊢
    rw [← start_next hst s cfg.batch] at hreach hle
    exact poll_going_obs_yield cfg hg.replay pid .next c s l hc hb hle hreach

/-- Progress from the invariant WITHOUT the client-belief part (`CInv`) and without an empty channel:
with `next`, auto-commit and a non-polling mode, a reply that was consumed already makes the poll store
the consumed offset whatever the client believes to be stored. -/
theorem no_stall_invR (hg : Good cfg .next) (hauto : cfg.autoCommitEnabled = true) (hpol : cfg.polling = false)
    {sys : Sys} {tr : List Obs} (h : Inv rew cfg pid .next srv0 sys tr)
    (hb : sys.1.buffered = []) (hw : wanted pid sys < sys.2.len) :
    (∃ r, (step cfg pid .next sys .poll).2 = [.polled sys.2.stored r, .yield ⟨pid, msgAt (wanted pid sys)⟩]) ∨
    (∃ r r', (step cfg pid .next sys .poll).2 = [.polled sys.2.stored r, .store (wanted pid sys - 1) true] ∧
      (step cfg pid .next (step cfg pid .next sys .poll).1 .poll).2 =
        [.polled (some (wanted pid sys - 1)) r', .yield ⟨pid, msgAt (wanted pid sys)⟩]) := by
  by_cases hreach : wanted pid sys < min (resume sys.2.stored + cfg.batch) sys.2.len
  · exact Or.inl (poll_wanted hg h hb hreach)
  right
  obtain ⟨c, s⟩ := sys
  have hbatch := hg.batch
  obtain ⟨hst, ⟨_, _, hwant⟩ | ⟨l, hc, hwant, _, _⟩⟩ := h.idle hb
  · rw [hwant] at hw hreach; simp only at hw hreach; omega
  · rw [hwant] at hw hreach ⊢
    exact poll_sync_then_yield cfg hg.replay hbatch hauto hpol pid c s l hst hc hb hw (Nat.le_of_not_lt hreach)

theorem no_stall_inv (hg : Good cfg .next) (hm : ConsumeMode cfg ∨ cfg.polling = true)
    {sys : Sys} {tr : List Obs} (h : Inv false cfg pid .next srv0 sys tr)
    (hp : sys.1.pending = []) (hb : sys.1.buffered = []) (hw : wanted pid sys < sys.2.len) :
    (∃ r, (step cfg pid .next sys .poll).2 = [.polled sys.2.stored r, .yield ⟨pid, msgAt (wanted pid sys)⟩]) ∨
    (∃ r b' r', (step cfg pid .next sys .poll).2 = [.polled sys.2.stored r, .store (wanted pid sys - 1) true] ∧
      (step cfg pid .next (step cfg pid .next sys .poll).1 .poll).2 =
        [.polled b' r', .yield ⟨pid, msgAt (wanted pid sys)⟩]) := by
  rcases hm with hm | hpol
  · exact (no_stall_invR hg hm.auto hm.not_polling h hb hw).imp_right fun ⟨r, r', h1, h2⟩ => ⟨r, _, r', h1, h2⟩
  · -- polling mode: the stored offset is within a batch of the consumed one, the first poll yields
    refine Or.inl (poll_wanted hg h hb ?_)
    obtain ⟨c, s⟩ := sys
    have hbatch := hg.batch
    obtain ⟨_, ⟨_, _, hwant⟩ | ⟨l, _, hwant, _, hP⟩⟩ := h.idle hb
    · rw [hwant] at hw ⊢; simp only at hw ⊢; omega
    · have := hP rfl hpol
      rw [hwant] at hw ⊢; simp only at hw ⊢; omega

theorem mem_two_polls {sys : Sys} {y : Yield} {o : Nat}
    (h : (∃ r, (step cfg pid strat0 sys .poll).2 = [.polled sys.2.stored r, .yield y]) ∨
      (∃ r b' r', (step cfg pid strat0 sys .poll).2 = [.polled sys.2.stored r, .store o true] ∧
        (step cfg pid strat0 (step cfg pid strat0 sys .poll).1 .poll).2 = [.polled b' r', .yield y])) :
    Obs.yield y ∈ (run cfg pid strat0 sys [.poll, .poll]).2 := by
  simp only [run, List.append_nil]
  rcases h with ⟨r, e⟩ | ⟨r, b', r', e1, e2⟩
  · rw [e]; simp
  · rw [e1, e2]; simp

theorem fresh_step_yield (hg : Good cfg strat0) (c : Cons) (s : Srv)
    (hc : c.consumed = []) (hb : c.buffered = []) (hp : c.pending = []) (hs : c.stored = [])
    (hst : c.strat = strat0) (e : Ev) (y : Yield) (hy : Obs.yield y ∈ (step cfg pid strat0 (c, s) e).2) :
    e = .poll ∧ y = ⟨pid, msgAt (firstOff strat0 s.stored)⟩ := by
  cases e with
  | pop => simp [step, pop_nil cfg c hb] at hy
  | deliver => simp [step, hp] at hy
  | tick =>
    by_cases hi : cfg.interval <;> simp [step, hi, hc, storeMany] at hy
  | append k => simp [step] at hy
  | drop => simp [step, hp] at hy
  | poll =>
    rw [step_poll_fresh cfg pid strat0 c s hc hs hb _ _ rfl rfl, hst, start_fresh hg] at hy
    refine ⟨rfl, ?_⟩
    split at hy <;> simp at hy <;> exact hy

theorem lastYield_none_fresh {sys : Sys} {tr : List Obs} (h : Inv rew cfg pid strat0 srv0 sys tr)
    (hl : lastYield tr = none) :
    sys.1.consumed = [] ∧ sys.1.buffered = [] ∧ sys.1.pending = [] ∧ sys.1.stored = [] ∧ sys.1.strat = strat0 := by
  cases h.phase with
  | fresh hi hc hb hp hs hst => exact ⟨hc, hb, hp, hs, hst⟩
  | going a n b hi _ _ _ _ _ _ _ _ _ => rw [lastYield_going hi] at hl; cases hl

theorem first_yield_stateR (hg : Good cfg strat0) {sys : Sys} {tr : List Obs}
    (hr : ReachR cfg pid strat0 srv0 sys tr) (hl : lastYield tr = none) (e : EvR) (y : Yield)
    (hy : Obs.yield y ∈ (stepR cfg pid strat0 sys e).2) :
    e = .base .poll ∧ y = ⟨pid, msgAt (firstOff strat0 sys.2.stored)⟩ := by
  obtain ⟨hc, hb, hp, hs, hst⟩ := lastYield_none_fresh (hr.inv hg) hl
  cases e with
  | base e =>
    obtain ⟨rfl, h2⟩ := fresh_step_yield hg sys.1 sys.2 hc hb hp hs hst e y hy
    exact ⟨rfl, h2⟩
  | rewind o => cases hy

theorem first_yield_state (hg : Good cfg strat0) {sys : Sys} {tr : List Obs}
    (hr : Reach cfg pid strat0 srv0 sys tr) (hl : lastYield tr = none) (e : Ev) (y : Yield)
    (hy : Obs.yield y ∈ (step cfg pid strat0 sys e).2) :
    e = .poll ∧ y = ⟨pid, msgAt (firstOff strat0 sys.2.stored)⟩ :=
  (first_yield_stateR hg hr.reachR hl (.base e) y hy).imp EvR.base.inj id

end Iggy.Sdk

/-
C20 in a world where the stored offset can be moved BACK behind the consumer's back.

`Iggy/Props/C20.lean` composes the consumer with a server on which this consumer is the only one who stores
its offset. In a consumer GROUP that is not so: the stored offset of a partition belongs to the group, and a
member that no longer owns the partition can still store an older offset of it (its background commit
stores whatever it consumed last). `Iggy/Sdk/Rewind.lean` adds this as an event of the environment on top
of the unchanged composition:

* `EvR` = `base e` (an event `e` of `Spec.lean`: pop, poll, deliver, tick, append n, drop) or `rewind o`:
  the stored offset becomes `o`, enabled when an offset `so ≥ o` is stored, a no-op otherwise. A rewind
  leaves no observation in the trace (the consumer's side does not see it happen).
* `stepR` / `runR` / `ReachR`: `step` / `run` / `Reach` over `EvR`. Every `List EvR` is a schedule;
  `ReachR cfg pid strat0 srv0 sys tr` = some schedule with rewinds leads from a fresh consumer and the
  server `srv0` to `sys` with the trace `tr` (`reachR_iff_runR`). `Reach` implies `ReachR` (`reach_reachR`).

What survives rewinds (sections A, B): everything C20 says about ONE incarnation of the consumer - yields
in offset order, exactly once, no gaps; the first yield resumes right after the stored offset; commits
carry yielded offsets; no stall. The model of the consumer (`Iggy/Sdk/Model.lean`) is unchanged.

What does not survive (witnesses at the end): the statements that read the server's stored offset as "the
initial one or one this consumer committed" (`commit_le_yielded` second half, `commit_le_fetched` first
half, `polled_stored`) - false by the very definition of a rewind; their rewind-proof form is
`stored_le_yielded_rewind` (not BEYOND the initial or a yielded offset) - and the first half of
`no_skip_across_incarnations`: a consumer re-created after a rewind starts right after the rewound offset
and re-reads what the rewind un-acknowledged (at least once, not exactly once, across re-creations). Its
second half - no gap - survives: `no_gap_across_incarnations_rewind`.

Proof: the invariant `Inv` of `Iggy/Sdk/Lemmas/Inv.lean` carries a flag `rew`; with `rew = true` it leaves
out the facts that tie the server's stored offset to the client's belief (`CInv`, `PInv`, ...). Every
event preserves it for both values of the flag, a rewind preserves `Inv true`, and progress does not
need `CInv`: with `next` the consumer stores the consumed offset whenever a reply holds nothing new.
-/
import Iggy.Sdk.Lemmas
namespace Iggy.Props.C20Rewind
open Iggy.Sdk

variable {cfg : CCfg} {pid : Nat} {strat0 : Strat} {srv0 : Srv} {sys : Sys} {tr : List Obs}

/-- `ReachR` is "some schedule with rewinds": every run is reachable, every reachable state is a run -/
theorem reachR_iff_runR : ReachR cfg pid strat0 srv0 sys tr ↔
    ∃ evs, runR cfg pid strat0 (Cons.new strat0, srv0) evs = (sys, tr) :=
  ⟨reachR_runR, fun ⟨evs, h⟩ => by simpa [h] using (runR_reachR .init evs : ReachR cfg pid strat0 srv0 _ _)⟩

/-- the world with rewinds contains the world of `Props/C20.lean` -/
theorem reach_reachR (h : Reach cfg pid strat0 srv0 sys tr) : ReachR cfg pid strat0 srv0 sys tr :=
  h.reachR

/-- a schedule without rewinds runs as in `Spec.lean` -/
theorem runR_base (sys : Sys) (evs : List Ev) :
    runR cfg pid strat0 sys (evs.map .base) = run cfg pid strat0 sys evs := by
  induction evs generalizing sys with
  | nil => rfl
  | cons e es ih => simp only [List.map_cons, runR, run, stepR, ih]

/-- a rewind that is enabled sets the stored offset, one that is not changes nothing -/
theorem rewind_spec (s : Srv) (o : Nat) :
    (∀ so, s.stored = some so → o ≤ so → s.rewind o = { s with stored := some o }) ∧
    ((∀ so, s.stored = some so → so < o) → s.rewind o = s) :=
  ⟨s.rewind_enabled o, s.rewind_disabled o⟩

/-! ## A. safety under rewinds (all modes, `next` and `offset k`) -/

/-- **Exactly once, in offset order, whatever the rewinds.** In every state reachable by a schedule with
rewinds: every yield comes from the consumer's partition, is the server's message at its offset, and is the
successor of the previous yield of the same incarnation (strictly increasing, no repeats, no gaps); every
yielded offset exists on the server; said per incarnation, its yields are a run `a, a+1, ..`.
This is `C20.yields_in_order_once` with `ReachR` for `Reach`. -/
theorem yields_in_order_once_rewind (hg : Good cfg strat0) (hr : ReachR cfg pid strat0 srv0 sys tr) :
    Always (fun pre x => ∀ y, x = .yield y →
      y.pid = pid ∧ y.msg = msgAt y.msg.off ∧ ∀ l, lastYield pre = some l → y.msg.off = l + 1) tr ∧
    (∀ y ∈ yieldsOf tr, y.msg.off < sys.2.len) ∧
    (∀ inc ∈ incarnations tr, ∃ a, offsOf inc = List.range' a (offsOf inc).length) :=
  yields_in_order_onceR hg hr

/-- The same said on schedules: for EVERY list of events over the extended alphabet, from a fresh consumer
and any server, the offsets each incarnation yields are consecutive and increasing: `a, a+1, a+2, ..`. -/
theorem yields_consecutive_any_schedule (hg : Good cfg strat0) (pid : Nat) (srv0 : Srv) (evs : List EvR) :
    ∀ inc ∈ incarnations (runR cfg pid strat0 (Cons.new strat0, srv0) evs).2,
      ∃ a, offsOf inc = List.range' a (offsOf inc).length :=
  (yields_in_order_onceR (srv0 := srv0) hg (reachR_iff_runR.mpr ⟨evs, rfl⟩)).2.2

/-- The first yield of an incarnation directly follows the poll that fetched it and is the first message
that poll asked for: with `next` the offset right after the one the server had stored when the poll
arrived - which may be a rewound one -, with `offset k` the offset `k`. -/
theorem first_yield_resumes_rewind (hg : Good cfg strat0) (hr : ReachR cfg pid strat0 srv0 sys tr) :
    Always (fun pre x => ∀ y, x = .yield y → lastYield pre = none →
      ∃ pre' b r, pre = pre' ++ [.polled b r] ∧ y.msg.off = firstOff strat0 b) tr :=
  first_yield_resumesR hg hr

/-- The same on states: while the incarnation has not yielded yet (in particular right after a
re-creation) the only event that yields is a poll, and it yields the server's message right after the
offset stored at that moment: after a rewind the re-created consumer re-reads from the rewound offset,
it never skips. -/
theorem resume_after_committed_rewind (hg : Good cfg .next) (hr : ReachR cfg pid .next srv0 sys tr)
    (hl : lastYield tr = none) (e : EvR) (y : Yield) (hy : Obs.yield y ∈ (stepR cfg pid .next sys e).2) :
    e = .base .poll ∧ y = ⟨pid, msgAt (resume sys.2.stored)⟩ :=
  first_yield_stateR hg hr hl e y hy

/-- Every store-offset request that reaches the server (channel, interval task, synchronous commit inside
a poll; all modes) carries an offset yielded before and is accepted; what was yielded was fetched. -/
theorem commits_yielded_rewind (hg : Good cfg strat0) (hr : ReachR cfg pid strat0 srv0 sys tr) :
    Always (fun pre x => ∀ off ok, x = .store off ok → ok = true ∧ off ∈ offsOf pre) tr ∧
    (∀ o ∈ offsOf tr, o ∈ fetchedOf tr) :=
  ⟨(hr.inv hg).g.storeOK, (hr.inv hg).g.yFetched⟩

/-- With `next` the stored offset is never ahead of what the current incarnation has consumed and still
buffers (the reason nothing is skipped: the next poll starts at or before the wanted message). -/
theorem stored_le_consumed_rewind (hg : Good cfg .next) (hr : ReachR cfg pid .next srv0 sys tr)
    (l so : Nat) (hl : sys.1.consumed.get? pid = some l) (hs : sys.2.stored = some so) :
    so ≤ l + sys.1.buffered.length := by
  cases (hr.inv hg).phase with
  | fresh hi hc _ _ _ _ => rw [hc] at hl; cases hl
  | going a n b hi hc hcp hb hlen hso hst hp hC hP =>
    rw [hc] at hl; simp only [OffMap.get?_single, Option.some.injEq] at hl
    have := hso rfl so hs
    rw [hb]; simp; omega

/-- What an incarnation yields does not depend on the schedule, rewinds included: two incarnations, of
any two schedules from any two servers, that start with the same message yield the same sequence as far
as both go. -/
theorem yields_schedule_independent_rewind (hg : Good cfg strat0) {sys₁ sys₂ : Sys} {tr₁ tr₂ : List Obs}
    {srv₁ srv₂ : Srv}
    (h₁ : ReachR cfg pid strat0 srv₁ sys₁ tr₁) (h₂ : ReachR cfg pid strat0 srv₂ sys₂ tr₂)
    (inc₁ inc₂ : List Obs) (hi₁ : inc₁ ∈ incarnations tr₁) (hi₂ : inc₂ ∈ incarnations tr₂)
    (hhead : (yieldsOf inc₁).head? = (yieldsOf inc₂).head?)
    (hlen : (yieldsOf inc₁).length ≤ (yieldsOf inc₂).length) :
    yieldsOf inc₁ = (yieldsOf inc₂).take (yieldsOf inc₁).length :=
  runs_prefix ((h₁.inv hg).yields_run inc₁ hi₁) ((h₂.inv hg).yields_run inc₂ hi₂) hhead hlen

/-- Outside polling mode the offset stored on the server is never beyond the one the server started with
or never beyond one the consumer (this or an earlier incarnation) has yielded - said with `resume`, the
point a `next` poll would start at: commits and rewinds never acknowledge a message that was not yielded.
(`C20.commit_le_yielded` says "is the initial one or a yielded one", which a rewind falsifies.) -/
theorem stored_le_yielded_rewind (hg : Good cfg strat0) (hpol : cfg.polling = false)
    (hr : ReachR cfg pid strat0 srv0 sys tr) :
    resume sys.2.stored ≤ resume srv0.stored ∨ ∃ o ∈ offsOf tr, resume sys.2.stored ≤ o + 1 :=
  (hr.inv hg).g.srvBelow hpol

/-- Across re-creations nothing is skipped, rewinds or not (strategy `next`, every mode but polling):
from the point the first incarnation resumed at, the offsets yielded so far by all incarnations together
have no gap. (With rewinds they can repeat, and a rewind below the initial offset makes a later
incarnation yield offsets before that point: the first half of `C20.no_skip_across_incarnations` is gone.) -/
theorem no_gap_across_incarnations_rewind (hg : Good cfg .next) (hpol : cfg.polling = false)
    (hr : ReachR cfg pid .next srv0 sys tr) :
    ∀ o o', o' ∈ offsOf tr → resume srv0.stored ≤ o → o ≤ o' → o ∈ offsOf tr :=
  no_gap_across_incarnationsR hg hpol hr

/-! ## B. no stall under rewinds (`next`, auto-commit, not polling mode) -/

/-- **Progress, whatever the rewinds.** Strategy `next`, auto-commit enabled, not polling mode (this covers
each / all / nth n / the interval task with any mode but polling). In a state reachable by a schedule with
rewinds, with an empty buffer, in which the server has the message the stream has to yield next (`wanted`:
right after the last one this incarnation consumed, else right after the stored offset): two polls yield
it. Nothing is assumed about the store-offset channel (it need not be empty) nor about what the client
believes the server has stored (`C20.no_stall` assumes an empty channel and a world without rewinds). -/
theorem no_stall_rewind (hg : Good cfg .next) (hauto : cfg.autoCommitEnabled = true) (hpol : cfg.polling = false)
    (hr : ReachR cfg pid .next srv0 sys tr)
    (hb : sys.1.buffered = []) (hw : wanted pid sys < sys.2.len) :
    Obs.yield ⟨pid, msgAt (wanted pid sys)⟩ ∈ (runR cfg pid .next sys [.base .poll, .base .poll]).2 :=
  mem_two_polls ((no_stall_invR hg hauto hpol (hr.inv hg) hb hw).imp_right fun ⟨r, r', h⟩ => ⟨r, _, r', h⟩)

/-- the modes of `C20.no_stall` other than polling qualify -/
theorem no_stall_rewind_consume (hg : Good cfg .next) (hm : ConsumeMode cfg)
    (hr : ReachR cfg pid .next srv0 sys tr)
    (hb : sys.1.buffered = []) (hw : wanted pid sys < sys.2.len) :
    Obs.yield ⟨pid, msgAt (wanted pid sys)⟩ ∈ (runR cfg pid .next sys [.base .poll, .base .poll]).2 :=
  no_stall_rewind hg hm.auto hm.not_polling hr hb hw

/-- More precisely: the first poll yields the wanted message, or the first poll stores the consumed offset
(nothing else) and the second poll, which finds exactly that offset stored, yields it. The second case is
the one a rewind (or a lagging commit, nth n with batch < n) produces: the whole reply was consumed
already. A rewind BETWEEN the two polls leads to a state this theorem applies to again. -/
theorem no_stall_two_polls_rewind (hg : Good cfg .next) (hauto : cfg.autoCommitEnabled = true)
    (hpol : cfg.polling = false) (hr : ReachR cfg pid .next srv0 sys tr)
    (hb : sys.1.buffered = []) (hw : wanted pid sys < sys.2.len) :
    (∃ r, (step cfg pid .next sys .poll).2 = [.polled sys.2.stored r, .yield ⟨pid, msgAt (wanted pid sys)⟩]) ∨
    (∃ r r', (step cfg pid .next sys .poll).2 = [.polled sys.2.stored r, .store (wanted pid sys - 1) true] ∧
      (step cfg pid .next (step cfg pid .next sys .poll).1 .poll).2 =
        [.polled (some (wanted pid sys - 1)) r', .yield ⟨pid, msgAt (wanted pid sys)⟩]) :=
  no_stall_invR hg hauto hpol (hr.inv hg) hb hw

/-! ## non-vacuity and witnesses -/

/-- the hypotheses are satisfiable -/
example : Good { batch := 1, mode := .each } .next := ⟨rfl, by decide, Or.inl rfl⟩
example : ConsumeMode { batch := 1, mode := .each } := Or.inl rfl
example : ({ batch := 1, mode := .disabled, interval := true } : CCfg).autoCommitEnabled = true ∧
    ({ batch := 1, mode := .disabled, interval := true } : CCfg).polling = false := by decide

/-- a run with a rewind (mode each, batch 1): 0, 1, 2 are yielded and committed - the client believes 2 is
stored, and it is -, then the stored offset is moved back to 0. The next poll gets message 1 again, yields
nothing and stores 2; the poll after it yields 3. (Without the `next` clause of the guard in `onReply`,
/repo commit 39592a5, nothing is stored here, the client's belief being up to date, and every further poll
returns message 1.) -/
example : (runR { batch := 1, mode := .each } 1 .next (Cons.new .next, ⟨10, none⟩)
    [.base .poll, .base .deliver, .base .poll, .base .deliver, .base .poll, .base .deliver,
     .rewind 0, .base .poll, .base .poll]).2 =
    [.polled none [msgAt 0], .yield ⟨1, msgAt 0⟩, .store 0 true,
     .polled (some 0) [msgAt 1], .yield ⟨1, msgAt 1⟩, .store 1 true,
     .polled (some 1) [msgAt 2], .yield ⟨1, msgAt 2⟩, .store 2 true,
     .polled (some 0) [msgAt 1], .store 2 true,
     .polled (some 2) [msgAt 3], .yield ⟨1, msgAt 3⟩] := by decide

/-- a state as in `no_stall_rewind` that only a rewind produces: buffer empty, consumed = 2, the client
believes 1 is stored, server at 0; the channel is not empty (the commit of 2 is still waiting); one poll
yields nothing, two polls yield 3 -/
example : let cfg : CCfg := { batch := 1, mode := .each }
    let sys := (runR cfg 1 .next (Cons.new .next, ⟨10, none⟩)
      [.base .poll, .base .deliver, .base .poll, .base .deliver, .base .poll, .rewind 0]).1
    sys.1.buffered = [] ∧ sys.1.pending = [(1, 2)] ∧ sys.1.stored = [(1, 1)] ∧ sys.2.stored = some 0 ∧
    wanted 1 sys = 3 ∧
    offsOf (runR cfg 1 .next sys [.base .poll]).2 = [] ∧
    offsOf (runR cfg 1 .next sys [.base .poll, .base .poll]).2 = [3] := by decide

/-- the configuration of the history found by the correspondence run (`corpus/C20/stale-member-commit.ops`:
no per-message commit, the interval task only), batch 2, a rewind while a message is still buffered: the
buffered 3 is yielded, the next poll gets 1 and 2 again and stores 3, the poll after it yields 4 -/
example : (runR { batch := 2, mode := .disabled, interval := true } 2 .next (Cons.new .next, ⟨10, none⟩)
    [.base .poll, .base .tick, .base .pop, .base .tick, .base .poll, .base .tick, .rewind 0, .base .pop,
     .base .poll, .base .poll]).2 =
    [.polled none [msgAt 0, msgAt 1], .yield ⟨2, msgAt 0⟩, .store 0 true, .yield ⟨2, msgAt 1⟩, .store 1 true,
     .polled (some 1) [msgAt 2, msgAt 3], .yield ⟨2, msgAt 2⟩, .store 2 true, .yield ⟨2, msgAt 3⟩,
     .polled (some 0) [msgAt 1, msgAt 2], .store 3 true,
     .polled (some 3) [msgAt 4, msgAt 5], .yield ⟨2, msgAt 4⟩] := by decide

/-- WITNESS: across re-creations a rewind means re-reading. A consumer re-created after a rewind starts
right after the rewound offset (`resume_after_committed_rewind`) and yields again what the rewind
un-acknowledged: at least once, not exactly once, across incarnations. Each incarnation on its own is still
a run (`[0,1,2]`, then `[1]`). -/
example : offsOf (runR { batch := 1, mode := .each } 1 .next (Cons.new .next, ⟨10, none⟩)
    [.base .poll, .base .deliver, .base .poll, .base .deliver, .base .poll, .base .deliver,
     .rewind 0, .base .drop, .base .poll]).2 = [0, 1, 2, 1] := by decide

/-- WITNESS: the first half of `C20.no_skip_across_incarnations` (all yields lie at or after the point the
first incarnation resumed from) and `C20.commit_le_yielded` (the stored offset is the initial one or a
yielded one) are false with rewinds: the server starts at 5, 6 is yielded and committed, the offset is moved back to 2, the
re-created consumer yields 3. -/
example : let evs : List EvR := [.base .poll, .base .deliver, .rewind 2, .base .drop, .base .poll]
    let r := runR { batch := 1, mode := .each } 1 .next (Cons.new .next, ⟨10, some 5⟩) evs
    offsOf r.2 = [6, 3] ∧ r.1.2.stored = some 2 := by decide

/-- WITNESS: `no_stall_rewind` needs a non-polling mode. In polling mode the server commits what it
returns and the consumer never commits in a poll; after a rewind by `k` batches it takes `k` polls that
yield nothing (here 3) before the stream moves on - it does move on, but not within two polls. -/
example : let cfg : CCfg := { batch := 1, mode := .polling }
    let sys := (runR cfg 1 .next (Cons.new .next, ⟨10, none⟩)
      [.base .poll, .base .poll, .base .poll, .base .poll, .rewind 0]).1
    sys.1.buffered = [] ∧ wanted 1 sys = 4 ∧
    offsOf (runR cfg 1 .next sys [.base .poll, .base .poll, .base .poll]).2 = [] ∧
    offsOf (runR cfg 1 .next sys [.base .poll, .base .poll, .base .poll, .base .poll]).2 = [4] := by decide

end Iggy.Props.C20Rewind

/-
The facts about the generated permission rules, each proved for EVERY entry of `allRules` by one
tactic block (Iggy/Perm/RuleTac.lean).  Iggy/Props/C09.lean states property C09 from these and from
what Iggy/Perm/Flags.lean says about `allowed`.
-/
import Iggy.Perm.RuleTac
namespace Iggy.Perm

theorem rules_read_view : ∀ e ∈ allRules, ∀ t t' u s tp, Tables.view t u s = Tables.view t' u s →
    e.2 t u s tp = e.2 t' u s tp := by
  all_rules =>
    intro t t' u s tp h
    simp only [Tables.view, View.mk.injEq] at h
    obtain ⟨h1, h2, h3, h4, h5, h6⟩ := h
    rule_unfold <;> simp only [h1, h2, h3, h4, h5, h6]

/-- the closed part of `allowed f (some p) s tp`, evaluated: the flags that suffice for `f` as a
literal list, `Flag.on` unfolded to the flag itself (`sflag` / `tflag` for the stream and topic ones) -/
macro "allowed_eval" loc:(Lean.Parser.Tactic.location)? : tactic => `(tactic|
  (simp (config := { decide := true }) only [allowed, Flag.suffices, Flag.all, List.range, List.range.loop,
     List.map, List.append, HAppend.hAppend, Append.append, List.filter, decide_true, decide_false] $[$loc]?
   simp only [List.any, Bool.or_false, Flag.on, gBit, sBit, tBit] $[$loc]?))

theorem ite_ok_or (c d : Bool) (k : Res) :
    (if c = true then Res.ok else if d = true then Res.ok else k) = if (c || d) = true then Res.ok else k := by
  cases c <;> simp

/-- Per rule and per shape of the record both sides come out as `if`-chains over flags; `ite_ok_or` makes
each ONE disjunction, compared up to order and repetition. -/
theorem rules_flags : ∀ e ∈ allRules, ∀ u s tp p,
    e.2 (tablesOf u p) u s tp = if allowed e.2 p s tp = true then .ok else .unauthorized := by
  all_rules =>
    intro u s tp p
    rcases p with _ | p
    · rule_unfold; rfl
    · generalize hb : allowed _ (some p) s tp = b
      allowed_eval at hb
      revert hb
      rule_unfold
      perm_cases_rec p s tp
      all_goals intro hb; subst hb
      all_goals simp only [ite_ok_or, if_true, if_false, Bool.or_false, Bool.false_or,
        Bool.or_self, Bool.or_comm, Bool.or_left_comm, Bool.or_self_left]

theorem rules_sound : ∀ e ∈ allRules, ∀ s tp c, needs e.1 s tp = some c → ∀ p,
    allowed e.2 p s tp = true → Grants p c = true := by
  all_rules <;>
  ( intro s tp c hc p h
    cases hc <;> (
    rcases p with _ | p
    · cases h
    · allowed_eval at h
      simp only [Grants, grantsP, gCreateTopic, gListTopics, gManageTopic, gReadTopic]
      grind))

theorem rules_root : ∀ e ∈ allRules, ∃ i, i < 10 ∧ (Flag.g i).suffices e.2 = true := by decide

theorem flags_of_mem {name : String} {f : Tables → Nat → Nat → Nat → Res} (hm : (name, f) ∈ allRules)
    (u s tp : Nat) (p : Option Permissions) :
    f (tablesOf u p) u s tp = if allowed f p s tp = true then Res.ok else Res.unauthorized :=
  rules_flags _ hm u s tp p

theorem sound_of_mem {name : String} {f : Tables → Nat → Nat → Nat → Res} (hm : (name, f) ∈ allRules)
    {u s tp : Nat} {p : Option Permissions} {c : Cap} (hc : needs name s tp = some c)
    (h : f (tablesOf u p) u s tp = Res.ok) : Grants p c = true := by
  rw [flags_of_mem hm] at h
  exact rules_sound _ hm s tp c hc p (by split at h <;> first | assumption | cases h)

theorem no_panic_of_mem {name : String} {f : Tables → Nat → Nat → Nat → Res} (hm : (name, f) ∈ allRules)
    {u s tp : Nat} {p : Option Permissions} : f (tablesOf u p) u s tp ≠ Res.panic := by
  rw [flags_of_mem hm]; split <;> simp

end Iggy.Perm

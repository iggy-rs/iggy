import Iggy.Props.C19
#print axioms Iggy.Props.C19.sealAll_eq
#print axioms Iggy.Props.C19.openAll_enc
#print axioms Iggy.Props.C19.poll_returns_sent
#print axioms Iggy.Props.C19.files_hold_ciphertext
#print axioms Iggy.Props.C19.seal_length
#print axioms Iggy.Props.C19.other_key_never_valid
#print axioms Iggy.Props.C19.undecryptable_is_error
#print axioms Iggy.Props.C19.journal_roundtrip
#print axioms Iggy.Props.C19.journal_other_key

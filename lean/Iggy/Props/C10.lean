/-
C10 — credentials.

A login succeeds only for an existing active user presenting that user's current password, or a
personal access token that exists, belongs to an existing active user and has not expired or been
deleted; after a password change the old password stops working and a change requires the current
password.  Logging out de-authenticates the connection, deleting the user or the token ends that
credential's validity, the same credentials behave identically before and after a restart.

The theorems are about `stepA0` (Iggy/Sys/Auth.lean), the request handler of the authentication layer.
`stepA` — what a client observes — is `stepA0` except that the single-entity reads answer a failure
other than `unauthenticated` with an empty response (`stepA_differs_only_on_reads`); such reads occur
below only in `unauthenticated_refused` / `unauthenticated_core_refused` / `after_logout_refused`, whose
answer `stepA` passes on unchanged.

Modelling assumptions (named in Auth.lean): a stored password hash is modelled by the password itself,
`u.pw = pw` stands for `verify pw (hash …)` under the scheme law `verify p (hash q) ↔ p = q` (an
assumption about bcrypt); a raw token is modelled by its index `idx` (the digest is injective and the
random tokens are pairwise distinct).

`ASys.UWF` is the invariant of the user table (ids strictly ascending, every user stored under its
id, names pairwise distinct, raw tokens pairwise distinct across all users and below the token counter,
root present, id cursor beyond every id in use); it holds initially and every request preserves it
(`uwf_init`, `uwf_step`, `uwf_reachable`).
-/
import Iggy.Sys.AuthLemmas
namespace Iggy.Props.C10
open Iggy.Sys Iggy.Log Iggy.Perm

/-! ## 0. the invariant; `stepA` versus `stepA0` -/

/-- the initial user table (root only) is well-formed -/
theorem uwf_init (y : Sys) (patMax : Nat) : (ASys.init y patMax).UWF := Iggy.Sys.uwf_init y patMax

/-- every request preserves the invariant of the user table. (For a core request the inner `step` is
opaque: only `restart` touches the users — it drops the tokens that have expired — and the cursor.) -/
theorem uwf_step {a : ASys} (h : a.UWF) (op : AOp) : (stepA0 a op).1.UWF := Iggy.Sys.uwf_step h op

/-- the invariant holds in every state reachable from the initial one -/
theorem uwf_reachable (y : Sys) (patMax : Nat) (ops : List AOp) : (runA (ASys.init y patMax) ops).UWF :=
  uwf_run (Iggy.Sys.uwf_init y patMax) ops

/-- what the invariant says -/
theorem uwf_unfold {a : ASys} (h : a.UWF) :
    a.users.Pairwise (fun x y => x.1 < y.1) ∧
    (∀ e ∈ a.users, e.2.id = e.1) ∧
    (∀ e₁ ∈ a.users, ∀ e₂ ∈ a.users, e₁.2.name = e₂.2.name → e₁ = e₂) ∧
    (∀ e₁ ∈ a.users, ∀ e₂ ∈ a.users, ∀ t₁ ∈ e₁.2.tokens, ∀ t₂ ∈ e₂.2.tokens, t₁.idx = t₂.idx → e₁ = e₂ ∧ t₁ = t₂) ∧
    (∀ e ∈ a.users, e.2.tokens.Pairwise (fun s t => s.idx ≠ t.idx)) ∧
    (∀ e ∈ a.users, ∀ t ∈ e.2.tokens, t.idx < a.tokenCount) ∧
    (∃ r, find? a.users 1 = some r) ∧
    (∀ e ∈ a.users, e.1 < a.userCursor) :=
  ⟨h.asc, h.key, fun _ h1 _ h2 hn => h.eq_of_name h1 h2 hn,
   fun _ h1 _ h2 _ ht1 _ ht2 hi => h.eq_of_tok h1 h2 ht1 ht2 hi, h.tokNodup, h.tokLt,
   Option.isSome_iff_exists.1 h.root, h.fresh⟩

/-- `stepA` (what the client sees) and `stepA0` reach the same state, and give the same answer to every
request that is not one of the single-entity reads (`get_user`, `get_stream`, `get_topic`,
`get_consumer_group`, `get_consumer_offset`) -/
theorem stepA_differs_only_on_reads (a : ASys) (op : AOp) :
    (stepA a op).1 = (stepA0 a op).1 ∧ (emptyOnError op = false → stepA a op = stepA0 a op) :=
  ⟨stepA_fst a op, stepA_eq a⟩

/-! ## 1. a password login succeeds only with the current password of an existing active user -/

/-- a successful login names an existing user, that user is active and the password presented is that
user's current password; the connection is then authenticated as that user -/
theorem login_only_if {a : ASys} {c : Nat} {name pw : String} {uid : Nat}
    (h : (stepA0 a (.login c name pw)).2.1 = .okId uid) :
    (∃ u, a.findUser (.name name) = some u ∧ u.id = uid ∧ u.active = true ∧ u.pw = pw) ∧
    (stepA0 a (.login c name pw)).1.userOf c = uid := by
  obtain ⟨u, hf, ha, hp, _, he⟩ := stepA0_login_ok (Refused.not_of_okId h)
  rw [he] at h ⊢
  cases h
  exact ⟨⟨u, hf, rfl, ha, hp⟩, ASys.userOf_set a c u.id⟩

/-- a login answers with a user id or with an error, nothing else -/
theorem login_answers (a : ASys) (c : Nat) (name pw : String) :
    (∃ uid, (stepA0 a (.login c name pw)).2.1 = .okId uid) ∨ (∃ e, (stepA0 a (.login c name pw)).2.1 = .err e) := by
  by_cases hr : Refused a (stepA0 a (.login c name pw))
  · obtain ⟨e, he⟩ := hr
    exact .inr ⟨e, by rw [he]⟩
  · obtain ⟨u, _, _, _, _, he⟩ := stepA0_login_ok hr
    exact .inl ⟨u.id, by rw [he]⟩

/-- a refused login changes nothing; in particular the connection keeps whatever session it had -/
theorem login_fail_keeps_session {a : ASys} {c : Nat} {name pw e : String}
    (h : (stepA0 a (.login c name pw)).2.1 = .err e) : (stepA0 a (.login c name pw)).1 = a := by
  by_cases hr : Refused a (stepA0 a (.login c name pw))
  · exact hr.fst
  · obtain ⟨_, _, _, _, _, he⟩ := stepA0_login_ok hr
    rw [he] at h; cases h

/-- the reasons for refusing a password login, exactly -/
theorem login_refusals {a : ASys} {c : Nat} {name pw e : String}
    (h : (stepA0 a (.login c name pw)).2.1 = .err e) :
    (e = "invalid_credentials" ∧ (a.findUser (.name name) = none ∨ ∃ u, a.findUser (.name name) = some u ∧ u.pw ≠ pw)) ∨
    (e = "user_inactive" ∧ ∃ u, a.findUser (.name name) = some u ∧ u.active = false) ∨
    (e = "resource_not_found" ∧ ¬ a.sessOK c) := by
  cases hf : a.findUser (.name name) with
  | none =>
    rw [stepA0_login_none hf] at h
    cases h
    exact .inl ⟨rfl, .inl rfl⟩
  | some u =>
    rw [stepA0_login_some hf] at h
    rcases loginAs_cases a c u pw with ⟨ha, hr⟩ | ⟨_, hp, hr⟩ | ⟨_, _, hs, hr⟩ | ⟨_, _, _, hr⟩
    all_goals rw [hr] at h; cases h
    · exact .inr (.inl ⟨rfl, u, rfl, ha⟩)
    · exact .inl ⟨rfl, .inr ⟨u, rfl, hp⟩⟩
    · exact .inr (.inr ⟨rfl, hs⟩)

/-! ## 2. … and with them it does succeed -/

/-- an existing active user presenting the current password is logged in, on a connection that is
unauthenticated or whose user still exists (`sessOK`: a login first logs the connection out, and that
fails for a connection whose user has been deleted) -/
theorem login_if {a : ASys} {c : Nat} {name pw : String} {u : User}
    (hf : a.findUser (.name name) = some u) (ha : u.active = true) (hp : u.pw = pw) (hs : a.sessOK c) :
    stepA0 a (.login c name pw) = ({ a with sessions := insertAsc a.sessions c u.id }, .okId u.id, []) := by
  rw [stepA0_login_some hf, loginAs, ha, if_neg nofun, if_neg (not_not_intro hp), if_neg ((a.sessOK_iff c).1 hs)]

/-- under the invariant every stored active user can log in by its own name and password -/
theorem login_if_stored {a : ASys} (h : a.UWF) {c k : Nat} {u : User} (hm : (k, u) ∈ a.users)
    (ha : u.active = true) (hs : a.sessOK c) :
    (stepA0 a (.login c u.name u.pw)).2.1 = .okId u.id := by
  rw [login_if (ASys.findUser_name h hm) ha rfl hs]

/-! ## 3. a token login succeeds only with an existing, unexpired token of an existing active user -/

/-- a successful token login: some stored user owns a token with that raw value, the user is active,
the token has not expired; the connection is then authenticated as that user -/
theorem token_only_if {a : ASys} {c k uid : Nat} (h : (stepA0 a (.loginPat c k)).2.1 = .okId uid) :
    (∃ e ∈ a.users, ∃ tk ∈ e.2.tokens, tk.idx = k ∧ e.2.id = uid ∧ e.2.active = true ∧
      ∀ x, tk.expiry = some x → a.sys.now < x) ∧
    (stepA0 a (.loginPat c k)).1.userOf c = uid := by
  obtain ⟨e, he, tk, ht, hk, hv, ha, _, hr⟩ := stepA0_loginPat_ok (Refused.not_of_okId h)
  rw [hr] at h ⊢
  cases h
  exact ⟨⟨e, he, tk, ht, hk, rfl, ha, Tok.validAt_iff.1 hv⟩, ASys.userOf_set a c e.2.id⟩

/-- … under the invariant that user and that token are the only ones with this raw value -/
theorem token_only_if_unique {a : ASys} (hw : a.UWF) {c k uid : Nat}
    (h : (stepA0 a (.loginPat c k)).2.1 = .okId uid) :
    ∃ u tk, (u.id, u) ∈ a.users ∧ tk ∈ u.tokens ∧ tk.idx = k ∧ u.id = uid ∧ u.active = true ∧
      (∀ x, tk.expiry = some x → a.sys.now < x) ∧
      ∀ k' u' tk', (k', u') ∈ a.users → tk' ∈ u'.tokens → tk'.idx = k → k' = u.id ∧ u' = u ∧ tk' = tk := by
  obtain ⟨⟨e, he, tk, ht, hk, hid, ha, hv⟩, _⟩ := token_only_if h
  have he' : (e.2.id, e.2) ∈ a.users := by rw [hw.key e he]; exact he
  refine ⟨e.2, tk, he', ht, hk, hid, ha, hv, ?_⟩
  intro k' u' tk' hm' ht' hk'
  obtain ⟨h1, h2⟩ := hw.eq_of_tok hm' he' ht' ht (hk'.trans hk.symm)
  cases h1
  exact ⟨rfl, rfl, h2⟩

/-- a refused token login changes nothing -/
theorem token_fail_keeps_session {a : ASys} {c k : Nat} {e : String}
    (h : (stepA0 a (.loginPat c k)).2.1 = .err e) : (stepA0 a (.loginPat c k)).1 = a := by
  by_cases hr : Refused a (stepA0 a (.loginPat c k))
  · exact hr.fst
  · obtain ⟨_, _, _, _, _, _, _, _, he⟩ := stepA0_loginPat_ok hr
    rw [he] at h; cases h

/-- conversely (under the invariant): an unexpired token of a stored active user logs that user in -/
theorem token_if {a : ASys} (hw : a.UWF) {c k : Nat} {u : User} {tk : Tok} (hm : (k, u) ∈ a.users)
    (ht : tk ∈ u.tokens) (hv : ∀ x, tk.expiry = some x → a.sys.now < x) (ha : u.active = true)
    (hs : a.sessOK c) :
    stepA0 a (.loginPat c tk.idx) = ({ a with sessions := insertAsc a.sessions c u.id }, .okId u.id, []) := by
  rw [stepA0_loginPat_some hw hm ht, loginTokAs, Tok.expiredAt_eq_not_validAt, Tok.validAt_iff.2 hv, ha,
    if_neg nofun, if_neg nofun, if_neg ((a.sessOK_iff c).1 hs)]

/-- a raw value that no stored token carries (never issued, or deleted since) is refused -/
theorem unknown_token_refused {a : ASys} {c k : Nat} (hn : ∀ e ∈ a.users, ∀ t ∈ e.2.tokens, t.idx ≠ k) :
    stepA0 a (.loginPat c k) = (a, .err "resource_not_found", []) := stepA0_loginPat_none hn

/-- a token of an inactive user is refused (under the invariant, so that the raw value resolves to it) -/
theorem token_of_inactive_user_refused {a : ASys} (hw : a.UWF) {c k : Nat} {u : User} {tk : Tok}
    (hm : (k, u) ∈ a.users) (ht : tk ∈ u.tokens) (ha : u.active = false) :
    ∃ e, stepA0 a (.loginPat c tk.idx) = (a, .err e, []) := by
  rw [stepA0_loginPat_some hw hm ht, loginTokAs, ha, Bool.not_false, if_pos rfl]
  split <;> exact ⟨_, rfl⟩

/-! ## 4. changing a password -/

/-- a password change succeeds only if the password presented as current is the target user's current
password (and only on an authenticated connection: one's own, or with the permission to manage users) -/
theorem change_requires_current {a : ASys} {c : Nat} {ui : Ident} {cur new : String}
    (h : (stepA0 a (.changePw c ui cur new)).2.1 = .ok) :
    ∃ u, a.findUser ui = some u ∧ u.pw = cur ∧ a.userOf c ≠ 0 ∧
      (u.id = a.userOf c ∨ okR (rule_change_password a.tables (a.userOf c)) = true) ∧
      (stepA0 a (.changePw c ui cur new)).1 = a.putUser { u with pw := new } := by
  obtain ⟨u, hf, hp, hc, hr, he⟩ := stepA0_changePw_ok (Refused.not_of_ok h)
  exact ⟨u, hf, hp, hc, hr, by rw [he]⟩

/-- with a wrong current password the change is refused and nothing changes -/
theorem change_with_wrong_password_refused {a : ASys} {c : Nat} {ui : Ident} {cur new : String} {u : User}
    (hf : a.findUser ui = some u) (hp : u.pw ≠ cur) :
    (stepA0 a (.changePw c ui cur new)).2.1 ≠ .ok ∧ (stepA0 a (.changePw c ui cur new)).1 = a := by
  have hr : Refused a (stepA0 a (.changePw c ui cur new)) := Classical.byContradiction fun hr => by
    obtain ⟨_, hf', hp', _⟩ := stepA0_changePw_ok hr
    cases hf.symm.trans hf'
    exact hp hp'
  exact ⟨fun h => Refused.not_of_ok h hr, hr.fst⟩

/-- after a password change the old password no longer logs the user in, on any connection -/
theorem old_password_dead {a : ASys} (hw : a.UWF) {c : Nat} {ui : Ident} {cur new : String} {u : User}
    (h : (stepA0 a (.changePw c ui cur new)).2.1 = .ok) (hne : new ≠ cur) (hf : a.findUser ui = some u)
    (c' : Nat) :
    stepA0 (stepA0 a (.changePw c ui cur new)).1 (.login c' u.name cur) =
      ((stepA0 a (.changePw c ui cur new)).1,
        .err (if u.active then "invalid_credentials" else "user_inactive"), []) := by
  obtain ⟨he, hfn⟩ := stepA0_changePw_findUser hw h hf
  rw [he, stepA0_login_some hfn]
  simp only [loginAs]
  cases u.active <;> simp [hne]

/-- … in particular it is never answered with a user id -/
theorem old_password_dead' {a : ASys} (hw : a.UWF) {c : Nat} {ui : Ident} {cur new : String} {u : User}
    (h : (stepA0 a (.changePw c ui cur new)).2.1 = .ok) (hne : new ≠ cur) (hf : a.findUser ui = some u)
    (c' uid : Nat) :
    (stepA0 (stepA0 a (.changePw c ui cur new)).1 (.login c' u.name cur)).2.1 ≠ .okId uid := by
  rw [old_password_dead hw h hne hf c']
  simp

/-- … while the new password does log the (active) user in, e.g. on a fresh connection -/
theorem new_password_works {a : ASys} (hw : a.UWF) {c : Nat} {ui : Ident} {cur new : String} {u : User}
    (h : (stepA0 a (.changePw c ui cur new)).2.1 = .ok) (hf : a.findUser ui = some u)
    (ha : u.active = true) {c' : Nat} (hc' : a.userOf c' = 0) :
    (stepA0 (stepA0 a (.changePw c ui cur new)).1 (.login c' u.name new)).2.1 = .okId u.id := by
  obtain ⟨he, hfn⟩ := stepA0_changePw_findUser hw h hf
  rw [he, login_if hfn ha rfl (.inl hc')]

/-- a password change touches nobody else: every other user's record is what it was -/
theorem change_password_is_local {a : ASys} {c : Nat} {ui : Ident} {cur new : String} {u : User}
    (h : (stepA0 a (.changePw c ui cur new)).2.1 = .ok) (hf : a.findUser ui = some u) {k : Nat}
    (hk : k ≠ u.id) :
    find? (stepA0 a (.changePw c ui cur new)).1.users k = find? a.users k ∧
    find? (stepA0 a (.changePw c ui cur new)).1.users u.id = some { u with pw := new } := by
  obtain ⟨_, hf', _, _, _, he⟩ := stepA0_changePw_ok (Refused.not_of_ok h)
  cases hf.symm.trans hf'
  rw [he]
  exact ⟨find?_insertAsc_ne _ _ hk, find?_insertAsc_self _ _ _⟩

/-! ## 5. logging out; unauthenticated connections -/

/-- a successful logout leaves the connection unauthenticated -/
theorem logout_deauthenticates {a : ASys} {c : Nat} (h : (stepA0 a (.logout c)).2.1 = .ok) :
    (stepA0 a (.logout c)).1.userOf c = 0 := by
  rw [(stepA0_logout_ok (Refused.not_of_ok h)).2]
  simp [ASys.userOf, find?_erase_self]

/-- every request that demands authentication (`AOp.guardedBy`: logout, the user and token management
commands, and every core command that calls `ensure_authenticated`) is refused on an unauthenticated
connection, and changes nothing -/
theorem unauthenticated_refused {a : ASys} {c : Nat} {op : AOp} (hu : a.userOf c = 0) (hg : op.guardedBy c) :
    stepA0 a op = (a, .err "unauthenticated", []) := by
  cases op
  case core c' o => obtain ⟨rfl, hs⟩ := hg; exact stepA0_core_unauth hu hs
  all_goals cases hg
  all_goals exact if_pos hu

/-- the core commands: every command of the core system that does not skip the authentication check
(that is every wire command except `get_stats`) is refused on an unauthenticated connection -/
theorem unauthenticated_core_refused {a : ASys} {c : Nat} {op : Op} (hu : a.userOf c = 0)
    (hs : skipsAuthCheck op = false) :
    (stepA0 a (.core c op)).2.1 = .err "unauthenticated" ∧ (stepA0 a (.core c op)).1 = a := by
  rw [stepA0_core_unauth hu hs]; exact ⟨rfl, rfl⟩

/-- hence after a logout the connection's next guarded request is refused -/
theorem after_logout_refused {a : ASys} {c : Nat} (h : (stepA0 a (.logout c)).2.1 = .ok) {op : AOp}
    (hg : op.guardedBy c) :
    (stepA0 (stepA0 a (.logout c)).1 op).2.1 = .err "unauthenticated" := by
  rw [unauthenticated_refused (logout_deauthenticates h) hg]

/-- what `guardedBy` covers: the user and token management commands and logout of that connection -/
theorem guardedBy_covers (c : Nat) (name pw cur new : String) (act : Bool) (perms : Option Permissions)
    (ui : Ident) (nm : Option String) (st : Option Bool) (ex : Option Nat) :
    (AOp.logout c).guardedBy c ∧ (AOp.createUser c name pw act perms).guardedBy c ∧
    (AOp.deleteUser c ui).guardedBy c ∧ (AOp.updateUser c ui nm st).guardedBy c ∧
    (AOp.updatePerms c ui perms).guardedBy c ∧ (AOp.changePw c ui cur new).guardedBy c ∧
    (AOp.userInfo c ui).guardedBy c ∧ (AOp.users c).guardedBy c ∧ (AOp.createPat c name ex).guardedBy c ∧
    (AOp.deletePat c name).guardedBy c ∧ (AOp.pats c).guardedBy c :=
  ⟨rfl, rfl, rfl, rfl, rfl, rfl, rfl, rfl, rfl, rfl, rfl⟩

/-! ## 6. deleting a user -/

/-- once a user is deleted neither its name with any password nor any of its tokens logs in -/
theorem delete_user_kills_credentials {a : ASys} (hw : a.UWF) {c : Nat} {ui : Ident} {u : User}
    (h : (stepA0 a (.deleteUser c ui)).2.1 = .ok) (hf : a.findUser ui = some u) :
    (∀ c' pw, stepA0 (stepA0 a (.deleteUser c ui)).1 (.login c' u.name pw) =
        ((stepA0 a (.deleteUser c ui)).1, .err "invalid_credentials", [])) ∧
    (∀ c' tk, tk ∈ u.tokens → stepA0 (stepA0 a (.deleteUser c ui)).1 (.loginPat c' tk.idx) =
        ((stepA0 a (.deleteUser c ui)).1, .err "resource_not_found", [])) := by
  obtain ⟨_, hf', _, _, _, he⟩ := stepA0_deleteUser_ok (Refused.not_of_ok h)
  cases hf.symm.trans hf'
  have hm := ASys.findUser_mem hw hf
  rw [he]
  -- what is left in the table shares neither the name nor a raw token with the deleted user
  refine ⟨fun c' pw => stepA0_login_none (ASys.findUser_name_none fun e he' hn => ?_),
    fun c' tk ht => stepA0_loginPat_none fun e he' t ht' hi => ?_⟩
  · exact (mem_erase.1 he').2 (hw.names e (mem_erase.1 he').1 _ hm hn)
  · exact (mem_erase.1 he').2 (hw.tokOwner e (mem_erase.1 he').1 _ hm t ht' tk ht hi)

/-- the deleted user is gone from the table, everybody else stays as they were -/
theorem delete_user_is_local {a : ASys} {c : Nat} {ui : Ident} {u : User}
    (h : (stepA0 a (.deleteUser c ui)).2.1 = .ok) (hf : a.findUser ui = some u) :
    find? (stepA0 a (.deleteUser c ui)).1.users u.id = none ∧
    ∀ k, k ≠ u.id → find? (stepA0 a (.deleteUser c ui)).1.users k = find? a.users k := by
  obtain ⟨_, hf', _, _, _, he⟩ := stepA0_deleteUser_ok (Refused.not_of_ok h)
  cases hf.symm.trans hf'
  rw [he]
  exact ⟨find?_erase_self _ _, fun k hk => find?_erase_ne _ hk⟩

/-- the root user cannot be deleted -/
theorem root_protected {a : ASys} {c : Nat} {ui : Ident} (h : (stepA0 a (.deleteUser c ui)).2.1 = .ok) :
    ∃ u, a.findUser ui = some u ∧ u.id ≠ 1 ∧
      find? (stepA0 a (.deleteUser c ui)).1.users 1 = find? a.users 1 := by
  obtain ⟨u, hf, hne, _, _, he⟩ := stepA0_deleteUser_ok (Refused.not_of_ok h)
  refine ⟨u, hf, hne, ?_⟩
  rw [he]
  exact find?_erase_ne _ (Ne.symm hne)

/-- an attempt to delete root is refused -/
theorem delete_root_refused {a : ASys} {c : Nat} {ui : Ident} {u : User} (hf : a.findUser ui = some u)
    (hid : u.id = 1) : (stepA0 a (.deleteUser c ui)).2.1 ≠ .ok := by
  intro h
  obtain ⟨_, hf', hne, _⟩ := stepA0_deleteUser_ok (Refused.not_of_ok h)
  cases hf.symm.trans hf'
  exact hne hid

/-- root's permissions cannot be changed: a successful `updatePerms` targets another user and leaves
root's record alone; one that targets root is refused -/
theorem cannot_change_permissions {a : ASys} {c : Nat} {ui : Ident} {perms : Option Permissions} :
    ((stepA0 a (.updatePerms c ui perms)).2.1 = .ok →
      ∃ u, a.findUser ui = some u ∧ u.id ≠ 1) ∧
    find? (stepA0 a (.updatePerms c ui perms)).1.users 1 = find? a.users 1 := by
  by_cases hr : Refused a (stepA0 a (.updatePerms c ui perms))
  · exact ⟨fun h => absurd hr (Refused.not_of_ok h), by rw [hr.fst]⟩
  · obtain ⟨u, hf, hne, _, _, he⟩ := stepA0_updatePerms_ok hr
    exact ⟨fun _ => ⟨u, hf, hne⟩, by rw [he]; exact find?_insertAsc_ne _ _ (Ne.symm hne)⟩

/-- more generally no request whatsoever changes root's permissions … -/
theorem root_permissions_fixed {a : ASys} (hw : a.UWF) (op : AOp) :
    (find? (stepA0 a op).1.users 1).map (·.perms) = (find? a.users 1).map (·.perms) :=
  root_perms_step hw op

/-- … so in every reachable state root exists and has the root permissions -/
theorem root_permissions_reachable (y : Sys) (patMax : Nat) (ops : List AOp) :
    (find? (runA (ASys.init y patMax) ops).users 1).map (·.perms) = some (some Permissions.root) := by
  rw [root_perms_run (Iggy.Sys.uwf_init y patMax) ops]
  rfl

/-- what deleting a user does NOT do: the sessions are left alone, so a connection authenticated as the
deleted user keeps that user id (it is not "unauthenticated"; its requests are then judged by the
permission tables, from which the user is gone, and its own `logout` / token commands answer
`resource_not_found` — see the last lines of the example history in section 9) -/
theorem delete_user_keeps_sessions (a : ASys) (c : Nat) (ui : Ident) :
    (stepA0 a (.deleteUser c ui)).1.sessions = a.sessions := by
  by_cases hr : Refused a (stepA0 a (.deleteUser c ui))
  · rw [hr.fst]
  · obtain ⟨_, _, _, _, _, he⟩ := stepA0_deleteUser_ok hr
    rw [he]

/-! ## 7. deleting a token; expiry -/

/-- a token that is created is a new raw value (no stored token carries it), and — if its owner is
active and the requested life time is not zero — it logs its owner in, e.g. on a fresh connection -/
theorem created_token_logs_in {a : ASys} (hw : a.UWF) {c : Nat} {name : String} {expiry : Option Nat} {k : Nat}
    (h : (stepA0 a (.createPat c name expiry)).2.1 = .okId k) :
    ∃ u, find? a.users (a.userOf c) = some u ∧ a.userOf c ≠ 0 ∧
      (∀ e ∈ a.users, ∀ t ∈ e.2.tokens, t.idx ≠ k) ∧
      (u.active = true → (∀ x, expiry = some x → 0 < x) → ∀ c', a.userOf c' = 0 →
        (stepA0 (stepA0 a (.createPat c name expiry)).1 (.loginPat c' k)).2.1 = .okId (a.userOf c)) := by
  obtain ⟨u, hf, hc, he⟩ := stepA0_createPat_ok (Refused.not_of_okId h)
  obtain rfl : a.tokenCount = k := Out.okId.inj ((congrArg (·.2.1) he).symm.trans h)
  refine ⟨u, hf, hc, fun e he' t ht hi => ?_, fun ha hx c' hc' => ?_⟩
  · have := hw.tokLt e he' t ht; omega
  · have hw' := Iggy.Sys.uwf_step hw (.createPat c name expiry)
    rw [he] at hw' ⊢
    refine (congrArg (·.2.1) (token_if hw' (c := c') (mem_insertAsc_self _ u.id _)
      (List.mem_append_right _ (List.mem_singleton.2 rfl)) ?_ ha (.inl hc'))).trans
      (congrArg Out.okId (hw.id_of_find? hf))
    intro x hx'
    cases expiry with
    | none => cases hx'
    | some e => cases hx'; exact Nat.lt_add_of_pos_left (hx e rfl)

/-- once a token is deleted it no longer logs in: every token of the session's user with the deleted
name is refused afterwards, on any connection -/
theorem delete_token_kills {a : ASys} (hw : a.UWF) {c : Nat} {name : String}
    (h : (stepA0 a (.deletePat c name)).2.1 = .ok) :
    ∃ u, find? a.users (a.userOf c) = some u ∧ (∃ tk ∈ u.tokens, tk.name = name) ∧
      ∀ tk ∈ u.tokens, tk.name = name → ∀ c',
        stepA0 (stepA0 a (.deletePat c name)).1 (.loginPat c' tk.idx) =
          ((stepA0 a (.deletePat c name)).1, .err "resource_not_found", []) := by
  obtain ⟨u, hf, _, hex, he⟩ := stepA0_deletePat_ok (Refused.not_of_ok h)
  have hm := mem_of_find? hf
  refine ⟨u, hf, hex, fun tk ht hn c' => ?_⟩
  rw [he]
  refine stepA0_loginPat_none fun e he' t ht' hi => ?_
  rcases mem_insertAsc he' with rfl | ⟨he1, he2⟩
  · -- the record now stored: a token kept with this raw value would be `tk` itself
    obtain ⟨ht1, ht2⟩ := List.mem_filter.1 ht'
    cases pairwise_idx_inj (hw.tokNodup _ hm) ht1 ht hi
    exact of_decide_eq_true ht2 hn
  · exact he2 hw.asc ((hw.tokOwner e he1 _ hm t ht' tk ht hi).trans (hw.id_of_find? hf).symm)

/-- … and the user's other tokens are untouched, as is everybody else -/
theorem delete_token_is_local {a : ASys} (hw : a.UWF) {c : Nat} {name : String}
    (h : (stepA0 a (.deletePat c name)).2.1 = .ok) :
    ∃ u, find? a.users (a.userOf c) = some u ∧
      find? (stepA0 a (.deletePat c name)).1.users (a.userOf c) =
        some { u with tokens := u.tokens.filter (fun tk => decide (tk.name ≠ name)) } ∧
      ∀ k, k ≠ a.userOf c → find? (stepA0 a (.deletePat c name)).1.users k = find? a.users k := by
  obtain ⟨u, hf, _, _, he⟩ := stepA0_deletePat_ok (Refused.not_of_ok h)
  refine ⟨u, hf, ?_⟩
  rw [he, ← hw.id_of_find? hf]
  exact ⟨find?_insertAsc_self _ _ _, fun k hk => find?_insertAsc_ne _ _ hk⟩

/-- an expired token is refused (under the invariant, so that the raw value resolves to this token) -/
theorem expired_token_refused {a : ASys} (hw : a.UWF) {c k : Nat} {u : User} {tk : Tok} {x : Nat}
    (hm : (k, u) ∈ a.users) (ht : tk ∈ u.tokens) (hx : tk.expiry = some x) (hle : x ≤ a.sys.now) :
    stepA0 a (.loginPat c tk.idx) = (a, .err "personal_access_token_expired", []) := by
  rw [stepA0_loginPat_some hw hm ht]
  exact if_pos (Tok.expiredAt_iff.2 ⟨x, hx, hle⟩)

/-- the clean-up of expired tokens removes exactly the expired tokens: every user keeps its id, name,
password, status, permissions and precisely the tokens that have not expired -/
theorem clean_keeps_valid (a : ASys) :
    (stepA0 a .cleanPats).1.users = keepToks (Tok.validAt a.sys.now) a.users ∧
    (∀ k, find? (stepA0 a .cleanPats).1.users k =
      (find? a.users k).map (fun u => { u with tokens := u.tokens.filter (Tok.validAt a.sys.now) })) ∧
    (∀ (u : User) (tk : Tok), tk ∈ u.tokens.filter (Tok.validAt a.sys.now) ↔
      tk ∈ u.tokens ∧ ∀ x, tk.expiry = some x → a.sys.now < x) := by
  refine ⟨rfl, fun k => ?_, fun u tk => ?_⟩
  · exact find?_keepToks _ _ k
  · rw [List.mem_filter, Tok.validAt_iff]

/-- the clean-up changes no answer to a login: password logins are answered identically; token logins
too, except that an expired token — refused as expired before — is now refused as unknown -/
theorem clean_same_answers {a : ASys} (hw : a.UWF) (c : Nat) :
    (∀ name pw, (stepA0 (stepA0 a .cleanPats).1 (.login c name pw)).2.1 = (stepA0 a (.login c name pw)).2.1) ∧
    (∀ k, (stepA0 (stepA0 a .cleanPats).1 (.loginPat c k)).2.1 =
      if (stepA0 a (.loginPat c k)).2.1 = .err "personal_access_token_expired" then .err "resource_not_found"
      else (stepA0 a (.loginPat c k)).2.1) :=
  ⟨fun name pw => login_keepToks (a' := (stepA0 a .cleanPats).1) rfl rfl c name pw,
   fun k => loginPat_keepToks (a' := (stepA0 a .cleanPats).1) hw rfl rfl rfl c k⟩

/-! ## 8. restart -/

/-- the restart of the core system keeps the clock (token expiry is judged against the same time
before and after) -/
theorem restart_keeps_clock (a : ASys) (c : Nat) (cl : List (PKey × Nat)) :
    (stepA0 a (.core c (.restart cl))).1.sys.now = a.sys.now := by
  rw [stepA0_restart_sys]; exact step_restart_now _ _

/-- what a restart does to the authentication state (whether or not the inner replay panics): no
session survives; every user survives with the same id, name, password, status and permissions, and
with exactly the tokens that had not expired at the time of the restart -/
theorem restart_users (a : ASys) (c : Nat) (cl : List (PKey × Nat)) :
    (stepA0 a (.core c (.restart cl))).1.sessions = [] ∧
    (stepA0 a (.core c (.restart cl))).1.users = keepToks (Tok.validAt a.sys.now) a.users ∧
    (∀ k, find? (stepA0 a (.core c (.restart cl))).1.users k =
      (find? a.users k).map (fun u => { u with tokens := u.tokens.filter (Tok.validAt a.sys.now) })) ∧
    (∀ c', (stepA0 a (.core c (.restart cl))).1.userOf c' = 0) := by
  refine ⟨rfl, rfl, fun k => ?_, fun c' => rfl⟩
  exact find?_keepToks _ _ k

/-- the same credentials are answered identically before and after a restart. `{ a with sessions := [] }` is the
state before the restart seen from a fresh connection. A password login gets the same answer. A token
login gets the same answer — a valid token is accepted both before and after, an unknown one refused
both before and after — except that a token that had expired, refused as expired before, is refused as
unknown after (start-up drops it) -/
theorem restart_same_answers {a : ASys} (hw : a.UWF) (c : Nat) (cl : List (PKey × Nat)) (c0 : Nat) :
    (∀ name pw, (stepA0 (stepA0 a (.core c (.restart cl))).1 (.login c0 name pw)).2.1 =
      (stepA0 { a with sessions := [] } (.login c0 name pw)).2.1) ∧
    (∀ k, (stepA0 (stepA0 a (.core c (.restart cl))).1 (.loginPat c0 k)).2.1 =
      if (stepA0 { a with sessions := [] } (.loginPat c0 k)).2.1 = .err "personal_access_token_expired"
      then .err "resource_not_found"
      else (stepA0 { a with sessions := [] } (.loginPat c0 k)).2.1) :=
  ⟨fun name pw => login_keepToks (a := { a with sessions := [] }) (a' := (stepA0 a (.core c (.restart cl))).1)
      rfl rfl c0 name pw,
   fun k => loginPat_keepToks (a := { a with sessions := [] }) (a' := (stepA0 a (.core c (.restart cl))).1)
      hw rfl (restart_keeps_clock a c cl) rfl c0 k⟩

/-- in particular a credential is accepted after the restart iff it was accepted before, and as the
same user -/
theorem restart_accepts_same {a : ASys} (hw : a.UWF) (c : Nat) (cl : List (PKey × Nat)) (c0 uid : Nat) :
    (∀ name pw, (stepA0 (stepA0 a (.core c (.restart cl))).1 (.login c0 name pw)).2.1 = .okId uid ↔
      (stepA0 { a with sessions := [] } (.login c0 name pw)).2.1 = .okId uid) ∧
    (∀ k, (stepA0 (stepA0 a (.core c (.restart cl))).1 (.loginPat c0 k)).2.1 = .okId uid ↔
      (stepA0 { a with sessions := [] } (.loginPat c0 k)).2.1 = .okId uid) := by
  obtain ⟨h1, h2⟩ := restart_same_answers hw c cl c0
  refine ⟨fun name pw => by rw [h1], fun k => ?_⟩
  rw [h2]
  split
  · next he => rw [he]; simp
  · exact Iff.rfl

/-! ## 9. non-vacuity: a concrete history -/

/-- a history on the demo server (`demoInit`: root only, time 0) exercising every clause -/
example : outsA demoInit [
    .login 1 "iggy" "iggy",                    -- root logs in on connection 1
    .createUser 1 "bob" "pw1" true none,       -- creates bob (id 2)
    .login 2 "bob" "pw1",                      -- right password
    .login 3 "bob" "bad",                      -- wrong password
    .changePw 2 (.name "bob") "bad" "pw2",     -- change without the current password
    .changePw 2 (.name "bob") "pw1" "pw2",     -- change with it
    .login 3 "bob" "pw1",                      -- old password is dead
    .login 3 "bob" "pw2",                      -- new one works
    .logout 3,
    .pats 3,                                   -- the logged-out connection is refused …
    .core 3 .streams,                          -- … also by the core commands
    .createPat 2 "t" (some 100),               -- bob's token 0, expires at 100
    .loginPat 4 0,                             -- accepted
    .loginPat 4 7,                             -- a token never issued
    .createPat 2 "t2" none,                    -- bob's token 1, never expires
    .loginPat 4 1,
    .deletePat 2 "t2",
    .loginPat 4 1,                             -- deleted token refused
    .core 0 (.clock 100),                      -- time passes
    .loginPat 5 0,                             -- expired token refused
    .core 0 (.restart []),
    .loginPat 5 0,                             -- still refused after the restart (now as unknown)
    .login 5 "bob" "pw1",                      -- same answers after the restart: old password dead,
    .login 5 "bob" "pw2",                      -- current one accepted
    .login 1 "iggy" "iggy",
    .deleteUser 1 (.num 1),                    -- root is protected
    .updatePerms 1 (.num 1) none,
    .deleteUser 1 (.num 2),                    -- bob is deleted
    .login 6 "bob" "pw2",                      -- and can no longer log in
    .pats 5,                                   -- bob's open connection 5 is of no use any more
    .logout 5,
    .core 5 .streams]
  = [.okId 1, .okId 2, .okId 2, .err "invalid_credentials", .err "invalid_credentials", .ok,
     .err "invalid_credentials", .okId 2, .ok, .err "unauthenticated", .err "unauthenticated",
     .okId 0, .okId 2, .err "resource_not_found", .okId 1, .okId 2, .ok, .err "resource_not_found",
     .ok, .err "personal_access_token_expired", .ok, .err "resource_not_found",
     .err "invalid_credentials", .okId 2, .okId 1, .err "cannot_delete_user",
     .err "cannot_change_permissions", .ok, .err "invalid_credentials", .err "resource_not_found",
     .err "resource_not_found", .err "unauthorized"] := rfl

/-- the state in which bob exists, is logged in on connection 2 and owns token 0 (expiring at 100) -/
example :
    let a := runA demoInit [.login 1 "iggy" "iggy", .createUser 1 "bob" "pw1" true none, .login 2 "bob" "pw1",
      .createPat 2 "t" (some 100)]
    -- the invariant holds (`uwf_reachable`), and the hypotheses of the theorems above are satisfiable:
    a.UWF ∧
    ((a.findUser (.name "bob")).map (fun u => (u.id, u.name, u.pw, u.active, u.tokens.map (·.idx)))
      = some (2, "bob", "pw1", true, [0])) ∧
    (stepA0 a (.changePw 2 (.name "bob") "pw1" "pw2")).2.1 = .ok ∧          -- `old_password_dead`
    (stepA0 a (.deleteUser 1 (.name "bob"))).2.1 = .ok ∧                     -- `delete_user_kills_credentials`
    (stepA0 a (.deletePat 2 "t")).2.1 = .ok ∧                                -- `delete_token_kills`
    (stepA0 a (.loginPat 7 0)).2.1 = .okId 2 ∧                               -- `token_only_if`
    (stepA0 a (.logout 2)).2.1 = .ok ∧                                       -- `logout_deauthenticates`
    a.userOf 9 = 0 ∧ a.sessOK 9 :=                                           -- a fresh connection
  ⟨uwf_reachable _ _ _, rfl, rfl, rfl, rfl, rfl, rfl, rfl, by decide⟩

/-- a session whose user has been deleted cannot log in again as anybody (`sessOK` fails): the implicit
logout fails. The hypothesis `sessOK` of `login_if` / `token_if` cannot be dropped. -/
example :
    let a := runA demoInit [.login 1 "iggy" "iggy", .createUser 1 "bob" "pw1" true none, .login 2 "bob" "pw1",
      .deleteUser 1 (.num 2)]
    ¬ a.sessOK 2 ∧ (stepA0 a (.login 2 "iggy" "iggy")).2.1 = .err "resource_not_found" ∧
    (stepA0 a (.login 3 "iggy" "iggy")).2.1 = .okId 1 := ⟨by decide, rfl, rfl⟩

end Iggy.Props.C10

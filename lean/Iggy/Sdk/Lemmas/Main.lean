/- C20 helpers: the property theorems, proved from the invariant. A statement that survives rewinds and is needed
in both worlds is proved for schedules with rewinds (`ReachR`); for the schedules of `Spec.lean` (`Reach`) it is
the special case `Reach.reachR`. What a rewind falsifies comes from the invariant with `rew = false`. -/
import Iggy.Sdk.Lemmas.Progress
namespace Iggy.Sdk
variable {rew : Bool} {cfg : CCfg} {pid : Nat} {strat0 : Strat} {srv0 : Srv}

theorem Inv.incarnations_range {sys : Sys} {tr : List Obs} (h : Inv rew cfg pid strat0 srv0 sys tr) :
    ∀ inc ∈ incarnations tr, ∃ a, offsOf inc = List.range' a (offsOf inc).length := by
  intro inc hinc
  rcases List.mem_append.mp hinc with hp | hc
  · exact h.g.past inc hp
  · cases List.mem_singleton.mp hc
    exact h.phase.range

theorem lastYield_mem {tr : List Obs} {l : Nat} (h : lastYield tr = some l) : l ∈ offsOf tr :=
  offsOf_curInc_sub tr l (List.mem_of_getLast? h)

theorem yields_in_order_onceR (hg : Good cfg strat0) {sys : Sys} {tr : List Obs}
    (hr : ReachR cfg pid strat0 srv0 sys tr) :
    Always (fun pre x => ∀ y, x = .yield y →
      y.pid = pid ∧ y.msg = msgAt y.msg.off ∧ ∀ l, lastYield pre = some l → y.msg.off = l + 1) tr ∧
    (∀ y ∈ yieldsOf tr, y.msg.off < sys.2.len) ∧
    (∀ inc ∈ incarnations tr, ∃ a, offsOf inc = List.range' a (offsOf inc).length) := by
  have h := hr.inv hg
  refine ⟨h.g.yieldOK.mono ?_, fun y hy => (h.g.genuine y hy).2.2, h.incarnations_range⟩
  intro pre x hx y e
  obtain ⟨h1, h2, h3⟩ := hx y e
  refine ⟨h1, h2, fun l hl => ?_⟩
  rw [hl] at h3; exact h3

theorem yields_in_order_once (hg : Good cfg strat0) {sys : Sys} {tr : List Obs}
    (hr : Reach cfg pid strat0 srv0 sys tr) :
    Always (fun pre x => ∀ y, x = .yield y →
      y.pid = pid ∧ y.msg = msgAt y.msg.off ∧ ∀ l, lastYield pre = some l → y.msg.off = l + 1) tr ∧
    (∀ y ∈ yieldsOf tr, y.msg.off < sys.2.len) ∧
    (∀ inc ∈ incarnations tr, ∃ a, offsOf inc = List.range' a (offsOf inc).length) :=
  yields_in_order_onceR hg hr.reachR

theorem first_yield_resumesR (hg : Good cfg strat0) {sys : Sys} {tr : List Obs}
    (hr : ReachR cfg pid strat0 srv0 sys tr) :
    Always (fun pre x => ∀ y, x = .yield y → lastYield pre = none →
      ∃ pre' b r, pre = pre' ++ [.polled b r] ∧ y.msg.off = firstOff strat0 b) tr := by
  refine (hr.inv hg).g.yieldOK.mono ?_
  intro pre x hx y e hl
  have := (hx y e).2.2
  rw [hl] at this; exact this

theorem first_yield_resumes (hg : Good cfg strat0) {sys : Sys} {tr : List Obs}
    (hr : Reach cfg pid strat0 srv0 sys tr) :
    Always (fun pre x => ∀ y, x = .yield y → lastYield pre = none →
      ∃ pre' b r, pre = pre' ++ [.polled b r] ∧ y.msg.off = firstOff strat0 b) tr :=
  first_yield_resumesR hg hr.reachR

theorem Inv.yields_run {sys : Sys} {tr : List Obs} (hI : Inv rew cfg pid strat0 srv0 sys tr) :
    ∀ inc ∈ incarnations tr,
      ∃ a, yieldsOf inc = (List.range' a (yieldsOf inc).length).map (fun o => (⟨pid, msgAt o⟩ : Yield)) := by
  intro inc hinc
  obtain ⟨a, ha⟩ := hI.incarnations_range inc hinc
  refine ⟨a, ?_⟩
  have hgen : ∀ y ∈ yieldsOf inc, (⟨pid, msgAt y.msg.off⟩ : Yield) = y := by
    intro ⟨p, m⟩ hy
    obtain ⟨h1, h2, _⟩ := hI.g.genuine _ (yieldsOf_incarnations_sub tr inc hinc _ hy)
    simp only at h1 h2 ⊢; rw [h1, ← h2]
  rw [← List.length_map (f := (·.msg.off)), ← offsOf, ← ha, offsOf, List.map_map]
  exact ((List.map_congr_left hgen).trans (List.map_id _)).symm

theorem runs_prefix {pid : Nat} {l₁ l₂ : List Yield}
    (e₁ : ∃ a, l₁ = (List.range' a l₁.length).map (fun o => (⟨pid, msgAt o⟩ : Yield)))
    (e₂ : ∃ a, l₂ = (List.range' a l₂.length).map (fun o => (⟨pid, msgAt o⟩ : Yield)))
    (hhead : l₁.head? = l₂.head?) (hlen : l₁.length ≤ l₂.length) : l₁ = l₂.take l₁.length := by
  obtain ⟨a₁, e₁⟩ := e₁
  obtain ⟨a₂, e₂⟩ := e₂
  cases hn₁ : l₁.length with
  | zero => have : l₁ = [] := List.length_eq_zero_iff.mp hn₁; subst this; simp
  | succ n₁ =>
    cases hn₂ : l₂.length with
    | zero => omega
    | succ n₂ =>
      rw [hn₁] at e₁; rw [hn₂] at e₂
      have ha : a₁ = a₂ := by
        rw [e₁, e₂] at hhead
        simp [List.range'_succ] at hhead
        have := congrArg (fun m : PMsg => m.off) hhead
        simpa using this
      subst ha
      rw [e₁, e₂, ← List.map_take, List.take_range'_of_length_ge (by omega)]

theorem yields_schedule_independent (hg : Good cfg strat0) {sys₁ sys₂ : Sys} {tr₁ tr₂ : List Obs}
    {srv₁ srv₂ : Srv}
    (h₁ : Reach cfg pid strat0 srv₁ sys₁ tr₁) (h₂ : Reach cfg pid strat0 srv₂ sys₂ tr₂)
    (inc₁ inc₂ : List Obs) (hi₁ : inc₁ ∈ incarnations tr₁) (hi₂ : inc₂ ∈ incarnations tr₂)
    (hhead : (yieldsOf inc₁).head? = (yieldsOf inc₂).head?) (hlen : (yieldsOf inc₁).length ≤ (yieldsOf inc₂).length) :
    yieldsOf inc₁ = (yieldsOf inc₂).take (yieldsOf inc₁).length :=
  runs_prefix ((h₁.inv (rew := false) hg).yields_run inc₁ hi₁) ((h₂.inv (rew := false) hg).yields_run inc₂ hi₂)
    hhead hlen

theorem commit_le_yielded (hg : Good cfg strat0) {sys : Sys} {tr : List Obs}
    (hr : Reach cfg pid strat0 srv0 sys tr) :
    Always (fun pre x => ∀ off ok, x = .store off ok → ok = true ∧ off ∈ offsOf pre) tr ∧
    (cfg.polling = false → sys.2.stored = srv0.stored ∨ ∃ o ∈ offsOf tr, sys.2.stored = some o) :=
  ⟨(hr.inv (rew := false) hg).g.storeOK, fun hp =>
    ((hr.inv (rew := false) hg).g.srvYielded rfl hp).imp_right fun ⟨o, e, ho⟩ => ⟨o, ho, e⟩⟩

theorem commit_le_fetched (hg : Good cfg strat0) {sys : Sys} {tr : List Obs}
    (hr : Reach cfg pid strat0 srv0 sys tr) :
    (sys.2.stored = srv0.stored ∨ ∃ o ∈ fetchedOf tr, sys.2.stored = some o) ∧
    (∀ o ∈ offsOf tr, o ∈ fetchedOf tr) :=
  ⟨((hr.inv (rew := false) hg).g.srvFetched rfl).imp_right fun ⟨o, e, ho⟩ => ⟨o, ho, e⟩,
    (hr.inv (rew := false) hg).g.yFetched⟩

theorem polled_stored (hg : Good cfg strat0) {sys : Sys} {tr : List Obs}
    (hr : Reach cfg pid strat0 srv0 sys tr) : Always (PolledOK cfg srv0) tr :=
  (hr.inv (rew := false) hg).g.polledOK rfl

/-- How the list of yielded offsets grows (strategy `next`): each new offset is the successor of an earlier one,
or the resume point of the stored offset `b` that the poll before it found, of which `B` is known. -/
theorem offsOf_ind {Q : List Nat → Prop} {B : Option Nat → List Nat → Prop} (tr : List Obs)
    (hy : Always (YieldOK pid .next) tr) (hp : Always (fun pre x => ∀ b r, x = .polled b r → B b (offsOf pre)) tr)
    (nil : Q [])
    (snoc : ∀ offs off, Q offs → (∃ l ∈ offs, off = l + 1) ∨ (∃ b, B b offs ∧ off = resume b) → Q (offs ++ [off])) :
    Q (offsOf tr) := by
  induction tr using snoc_ind with
  | nil => exact nil
  | snoc tr x ih =>
    have ih := ih hy.prefix hp.prefix
    cases x with
    | yield y =>
      refine offsOf_append tr _ ▸ snoc _ y.msg.off ih ?_
      have hyo := (hy.last y rfl).2.2
      cases hl : lastYield tr with
      | some l => rw [hl] at hyo; exact Or.inl ⟨l, lastYield_mem hl, hyo⟩
      | none =>
        rw [hl] at hyo
        obtain ⟨pre', b, r, rfl, hoff⟩ := hyo
        exact Or.inr ⟨b, by simpa using hp.prefix.last b r rfl, hoff⟩
    | polled b r => simpa using ih
    | store o ok => simpa using ih
    | dropped => simpa using ih

def NoGap (r0 : Nat) (offs : List Nat) : Prop :=
  ∀ o o', o' ∈ offs → r0 ≤ o → o ≤ o' → o ∈ offs

theorem NoGap.snoc {r0 : Nat} {offs : List Nat} (h : NoGap r0 offs) (off : Nat)
    (hoff : off ≤ r0 ∨ ∃ o' ∈ offs, off ≤ o' + 1) : NoGap r0 (offs ++ [off]) := by
  intro o o' ho' hro hle
  simp only [List.mem_append, List.mem_singleton] at ho' ⊢
  rcases ho' with ho' | rfl
  · exact Or.inl (h o o' ho' hro hle)
  · by_cases he : o = o'
    · exact Or.inr he
    · rcases hoff with e | ⟨o'', ho'', e⟩
      · omega
      · exact Or.inl (h o o'' ho'' hro (by omega))

theorem no_gap_across_incarnationsR (hg : Good cfg .next) (hpol : cfg.polling = false) {sys : Sys} {tr : List Obs}
    (hr : ReachR cfg pid .next srv0 sys tr) :
    ∀ o o', o' ∈ offsOf tr → resume srv0.stored ≤ o → o ≤ o' → o ∈ offsOf tr := by
  refine offsOf_ind (Q := NoGap (resume srv0.stored))
    (B := fun b offs => resume b ≤ resume srv0.stored ∨ ∃ o ∈ offs, resume b ≤ o + 1) tr (hr.inv hg).g.yieldOK
    ((hr.inv hg).g.polledBelow.mono fun _ _ h b r e => h b r e hpol) (fun _ _ h => nomatch h) ?_
  intro offs off ih hoff
  refine ih.snoc off ?_
  rcases hoff with ⟨l, hl, e⟩ | ⟨b, hb, e⟩
  · exact Or.inr ⟨l, hl, Nat.le_of_eq e⟩
  · exact e ▸ hb

theorem no_skip_across_incarnations (hg : Good cfg .next) (hpol : cfg.polling = false) {sys : Sys} {tr : List Obs}
    (hr : Reach cfg pid .next srv0 sys tr) :
    (∀ o ∈ offsOf tr, resume srv0.stored ≤ o) ∧
    (∀ o o', o' ∈ offsOf tr → resume srv0.stored ≤ o → o ≤ o' → o ∈ offsOf tr) := by
  refine ⟨?_, no_gap_across_incarnationsR hg hpol hr.reachR⟩
  have h := hr.inv (rew := false) hg
  -- without rewinds an incarnation resumes right after the initial or a yielded offset (`PolledOK`)
  refine offsOf_ind (Q := fun offs => ∀ o ∈ offs, resume srv0.stored ≤ o)
    (B := fun b offs => b = srv0.stored ∨ ∃ o ∈ offs, b = some o) tr h.g.yieldOK
    ((h.g.polledOK rfl).mono fun _ _ h b r e => (h b r e).2 hpol) (fun _ h => nomatch h) ?_
  intro offs off ih hoff o ho
  rcases List.mem_append.mp ho with ho | ho
  · exact ih o ho
  · cases List.mem_singleton.mp ho
    rcases hoff with ⟨l, hl, rfl⟩ | ⟨b, hb | ⟨o', ho', rfl⟩, rfl⟩
    · exact Nat.le_succ_of_le (ih l hl)
    · rw [hb]; exact Nat.le_refl _
    · exact Nat.le_succ_of_le (ih o' ho')

end Iggy.Sdk

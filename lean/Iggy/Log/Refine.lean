/-
L1 (`Iggy.Log.Model`, `Part`) refines L2 (`Iggy.Log.Spec`, `SPart`) through `abs`, under the
representation invariant `Part.Inv` (`Iggy.Log.Abs`), for all inputs.  The theorem of each operation
(`create_inv`, `create_abs`, `<op>_refines`) is in the file of `Lemmas/` that treats the operation.  This
file puts them together: the reachable states, the invariant in every one of them and the abstract
history (`SPart.run`, SpecRun.lean) that each one simulates, a run checked both by evaluation and
through the theorems.

The poll by timestamp refines the specification only while every log file is below 4 GiB
(`getByTimestamp_refines_partial`, Lemmas/ReadTs.lean); `getByTimestamp_counterexample` below shows
that the bound is needed.
-/
import Iggy.Log.Lemmas.Append
import Iggy.Log.Lemmas.Persist
import Iggy.Log.Lemmas.ReadSeg
import Iggy.Log.Lemmas.ReadPart
import Iggy.Log.Lemmas.ReadTs
import Iggy.Log.Lemmas.Restart
import Iggy.Log.Lemmas.Misc
import Iggy.Log.Lemmas.Retention
import Iggy.Log.Lemmas.Decide
import Iggy.Log.SpecRun
namespace Iggy.Log

variable {cfg : Cfg} {p : Part}

theorem segGetByOffset_refines {s : Seg} (h : s.Inv cfg) (off count : Nat) :
    s.getByOffset off count =
      s.msgs.filter (fun m => max off s.start ≤ m.off ∧ m.off < max off s.start + count) :=
  Seg.getByOffset_eq h off count

/-- `restart_refines` without the `eraseDups`, which is the identity under the invariant's `Nodup` clause -/
theorem restart_refines' {now : Nat} (h : p.Inv cfg) (hnow : ∀ m ∈ p.msgs, m.ts ≤ now) (cacheLen : Nat) :
    abs (p.restart cfg now cacheLen) =
      { abs p with ids := (abs p).ids.map (fun _ => (abs p).msgs.map (·.id)) } := by
  rw [(restart_refines h hnow cacheLen).2]
  show SPart.mk _ _ _ _ _ _ = SPart.mk _ _ _ _ _ _
  congr 1
  show p.dedup.map _ = p.dedup.map _
  cases hd : p.dedup with
  | none => rfl
  | some ids =>
    simp only [Option.map_some]
    congr 1
    exact eraseDups_of_nodup (h.dedupIds ids hd).2

/-! ## reachable states

Everything the partition can do, as one inductive predicate; the invariant holds in every reachable
state, and `append` never fails there.  Side conditions: the clock is never behind a stored message
(`append`, `restart`), and every message occupies at least one byte. -/

inductive Reach (cfg : Cfg) : Part → Prop
  | create (e : Option Nat) (now : Nat) : Reach cfg (Part.create cfg e now)
  | append {p p' : Part} (now : Nat) (msgs : List InMsg) : Reach cfg p → (∀ m ∈ msgs, 0 < m.size) →
      (∀ m ∈ p.msgs, m.ts ≤ now) → p.append cfg now msgs = .ok p' → Reach cfg p'
  | flush {p : Part} : Reach cfg p → Reach cfg (p.flush cfg)
  | save {p : Part} : Reach cfg p → Reach cfg (p.save cfg)
  | restart {p : Part} (now cacheLen : Nat) : Reach cfg p → (∀ m ∈ p.msgs, m.ts ≤ now) →
      Reach cfg (p.restart cfg now cacheLen)
  | purge {p : Part} (now : Nat) : Reach cfg p → Reach cfg (p.purge cfg now)
  | storeOffset {p p' : Part} (grp : Bool) (cid off : Nat) : Reach cfg p →
      p.storeOffset grp cid off = .ok p' → Reach cfg p'
  | deleteOffset {p p' : Part} (grp : Bool) (cid : Nat) : Reach cfg p →
      p.deleteOffset grp cid = .ok p' → Reach cfg p'
  | expire {p : Part} (now : Nat) : Reach cfg p → Reach cfg (p.expire cfg now)
  | deleteOldest {p : Part} (now : Nat) : Reach cfg p → Reach cfg (p.deleteOldest cfg now)
  | evict {p : Part} (keep : Nat) : Reach cfg p → Reach cfg (p.evict keep)

theorem simulates_step {p p' : Part} (hs : ∃ e0 sops, abs p = SPart.run cfg e0 sops) (op : SOp)
    (h : abs p' = (abs p).step op) : ∃ e0 sops, abs p' = SPart.run cfg e0 sops := by
  obtain ⟨e0, sops, hs⟩ := hs
  exact ⟨e0, sops ++ [op], by rw [SPart.run_snoc, ← hs, h]⟩

/-- invariant and simulation by one induction: the theorem of each operation needs the invariant before
the step and gives the invariant and the abstract step after it -/
theorem Reach.refines (hseg : 0 < cfg.segSize) (r : Reach cfg p) :
    p.Inv cfg ∧ ∃ (e0 : Option Nat) (sops : List SOp), abs p = SPart.run cfg e0 sops := by
  induction r with
  | create e now => exact ⟨create_inv e now hseg, e, [], create_abs cfg e now⟩
  | append now msgs _ hsz hts hok ih =>
    obtain ⟨p'', e, hinv, ha⟩ := append_refines (now := now) (msgs := msgs) ih.1 hsz hts
    cases hok.symm.trans e
    exact ⟨hinv, simulates_step ih.2 (.append now msgs) ha⟩
  | flush _ ih =>
    obtain ⟨hinv, ha⟩ := flush_refines ih.1
    exact ⟨hinv, ha ▸ ih.2⟩
  | save _ ih =>
    obtain ⟨hinv, ha⟩ := save_refines ih.1
    exact ⟨hinv, ha ▸ ih.2⟩
  | restart now cacheLen _ hnow ih =>
    obtain ⟨hinv, ha⟩ := restart_refines ih.1 hnow cacheLen
    exact ⟨hinv, simulates_step ih.2 .restart ha⟩
  | purge now _ ih =>
    obtain ⟨hinv, ha⟩ := purge_refines ih.1 now
    exact ⟨hinv, simulates_step ih.2 .purge ha⟩
  | storeOffset grp cid off _ hok ih =>
    obtain ⟨ha, hinv⟩ := storeOffset_refines ih.1 grp cid off
    rw [hok] at ha
    exact ⟨hinv _ hok,
      simulates_step ih.2 (.store grp cid off) (by simp only [SPart.step, ← ha]; rfl)⟩
  | deleteOffset grp cid _ hok ih =>
    obtain ⟨ha, hinv⟩ := deleteOffset_refines ih.1 grp cid
    rw [hok] at ha
    exact ⟨hinv _ hok,
      simulates_step ih.2 (.delete grp cid) (by simp only [SPart.step, ← ha]; rfl)⟩
  | expire now _ ih =>
    obtain ⟨n, hinv, ha, -⟩ := expire_refines ih.1 now
    exact ⟨hinv, simulates_step ih.2 (.drop n) ha⟩
  | deleteOldest now _ ih =>
    obtain ⟨n, hinv, ha, -⟩ := deleteOldest_refines ih.1 now
    exact ⟨hinv, simulates_step ih.2 (.drop n) ha⟩
  | evict keep _ ih =>
    obtain ⟨hinv, ha⟩ := evict_refines ih.1 keep
    exact ⟨hinv, ha ▸ ih.2⟩

theorem Reach.inv (hseg : 0 < cfg.segSize) (r : Reach cfg p) : p.Inv cfg := (r.refines hseg).1

theorem Reach.append_ok (hseg : 0 < cfg.segSize) (r : Reach cfg p) {now : Nat} {msgs : List InMsg}
    (hsz : ∀ m ∈ msgs, 0 < m.size) (hts : ∀ m ∈ p.msgs, m.ts ≤ now) :
    ∃ p', p.append cfg now msgs = .ok p' ∧ Reach cfg p' ∧ abs p' = (abs p).append now msgs := by
  obtain ⟨p', e, -, ha⟩ := append_refines (now := now) (msgs := msgs) (r.inv hseg) hsz hts
  exact ⟨p', e, Reach.append now msgs r hsz hts e, ha⟩

/-! ## non-vacuity and counterexamples

A concrete run: create, four appends (`reqToSave = 2`, `segSize = 100`, every message 20 bytes, cache,
index cache and dedup on; the second append carries a duplicate id), then size-based retention.  The
invariant is *decidable* (`Lemmas/Decide.lean`), so it is checked on every state by evaluation, and
independently derived through the theorems. -/

def rxCfg : Cfg := { reqToSave := 2, segSize := 100, cacheOn := true, idxCacheOn := true, dedupOn := true }
def rxIn (i : Nat) : InMsg := { id := i, size := 20, tag := i }
def rxGet (e : Except Err Part) : Part := match e with | .ok p => p | .error _ => Part.create rxCfg none 0

def rx0 : Part := Part.create rxCfg none 0
def rx1 : Part := rxGet (rx0.append rxCfg 1 [rxIn 1])                    -- buffered only
def rx2 : Part := rxGet (rx1.append rxCfg 2 [rxIn 2, rxIn 1, rxIn 3])    -- duplicate dropped, persisted
def rx3 : Part := rxGet (rx2.append rxCfg 3 [rxIn 4, rxIn 5])            -- segment full: closed
def rx4 : Part := rxGet (rx3.append rxCfg 4 [rxIn 6])                    -- rolled over to segment 2
def rx5 : Part := rx4.deleteOldest rxCfg 5                               -- first segment deleted, cache stale

example : rx0.append rxCfg 1 [rxIn 1] = .ok rx1 := rfl
example : rx1.append rxCfg 2 [rxIn 2, rxIn 1, rxIn 3] = .ok rx2 := rfl
example : rx2.append rxCfg 3 [rxIn 4, rxIn 5] = .ok rx3 := rfl
example : rx3.append rxCfg 4 [rxIn 6] = .ok rx4 := rfl
example : rx0.Inv rxCfg := by decide
example : rx1.Inv rxCfg := by decide
example : rx2.Inv rxCfg := by decide
example : rx3.Inv rxCfg := by decide
example : rx4.Inv rxCfg := by decide
theorem rx5_inv : rx5.Inv rxCfg := by decide
example : rx5.Inv rxCfg := rx5_inv
example : rx4.msgs.map (·.off) = [0, 1, 2, 3, 4, 5] := by decide
example : rx4.segs.map (fun s => (s.start, s.closed, s.log.length, s.accMsgs.length)) =
    [(0, true, 2, 0), (5, false, 0, 1)] := by decide
example : rx5.msgs.map (·.off) = [5] ∧ rx5.cache.map (·.map (·.off)) = some [0, 1, 2, 3, 4, 5] := by decide

/-- the same through the theorems: the invariant holds after create + two appends -/
example : ∃ p1 p2, rx0.append rxCfg 1 [rxIn 1] = .ok p1 ∧
    p1.append rxCfg 2 [rxIn 2, rxIn 1, rxIn 3] = .ok p2 ∧ p2.Inv rxCfg ∧
    abs p2 = ((SPart.create rxCfg none).append 1 [rxIn 1]).append 2 [rxIn 2, rxIn 1, rxIn 3] := by
  have h0 : rx0.Inv rxCfg := create_inv none 0 (by decide)
  obtain ⟨p1, e1, h1, a1⟩ := append_refines (now := 1) (msgs := [rxIn 1]) h0 (by decide) (by decide)
  have hp1 : p1 = rx1 := by
    have : (.ok p1 : Except Err Part) = .ok rx1 := e1.symm.trans rfl
    cases this; rfl
  obtain ⟨p2, e2, h2, a2⟩ := append_refines (now := 2) (msgs := [rxIn 2, rxIn 1, rxIn 3]) h1 (by decide)
    (by subst hp1; decide)
  exact ⟨p1, p2, e1, e2, h2, by
    rw [a2, a1, show abs rx0 = SPart.create rxCfg none from create_abs _ _ _]⟩

/-! Regression examples for a defect of the server (fix 9561552 in /repo, mirrored by the clamp in
`Part.getByOffset`): after retention deleted offsets 0–4 (`rx5`: the cache still holds them), the
unfixed code answers a poll from offset 0 with the deleted message 0 from the stale cache (with nothing
when the cache is off) and `getLast 3` with the deleted messages 3, 4.  With the fix every answer starts
at the earliest retained message. -/

theorem rx5_poll : (rx5.getByOffset 0 1).map (·.off) = [5] ∧ ((abs rx5).pollOffset 0 1).map (·.off) = [5] := by
  decide
example : (rx5.getByOffset 0 1).map (·.off) = [5] ∧ ((abs rx5).pollOffset 0 1).map (·.off) = [5] := rx5_poll
example : rx5.getByOffset 0 1 = (abs rx5).pollOffset 0 1 := getByOffset_refines rx5_inv (by decide)
example : (rx5.getLast 3).map (·.off) = [5] ∧ ((abs rx5).pollLast 3).map (·.off) = [5] := by decide
example : (rx5.getFirst 2).map (·.off) = [5] := by decide

/-- without a cache: two appends, then retention deletes the first segment (offsets 0–3) -/
def rxCfgNoCache : Cfg := { rxCfg with cacheOn := false }
def rx5' : Part :=
  let get (e : Except Err Part) : Part := match e with | .ok p => p | .error _ => Part.create rxCfgNoCache none 0
  let q := get ((Part.create rxCfgNoCache none 0).append rxCfgNoCache 1 [rxIn 1, rxIn 2, rxIn 3, rxIn 4])
  let q := get (q.append rxCfgNoCache 2 [rxIn 5])
  q.deleteOldest rxCfgNoCache 3

example : rx5'.Inv rxCfgNoCache ∧ rx5'.cache = none ∧ rx5'.firstStart = 4 := by decide
example : (rx5'.getFirst 1).map (·.off) = [4] ∧ ((abs rx5').pollFirst 1).map (·.off) = [4] := by decide
example : (rx5'.getByOffset 2 5).map (·.off) = [4] := by decide

/-- `getByTimestamp_refines_partial` without its hypothesis `hsmall` (the 4 GiB bound) is false -/
theorem getByTimestamp_counterexample :
    ∃ (cfg : Cfg) (p : Part) (ts count : Nat), p.Inv cfg ∧ 0 < count ∧
      p.getByTimestamp ts count ≠ (abs p).pollTimestamp ts count :=
  ⟨readTsCexCfg, readTsCexPart, 0, 10, readTsCexPart_inv, by decide, readTsCexPart_neq⟩

end Iggy.Log
